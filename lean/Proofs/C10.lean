/-
  C10 — the Hilbert-Huang spectrum bins every sample's energy exactly once.
  Property theorems only (helper lemmas and the declarative specs `inBin`, `inRange`,
  `rowSpec`, `hhtSpec`, `hht1dSpec`: Proofs/Lemmas/Spectra.lean).

  All statements are about the executable model `EmdModel.Spectra` of
  `hilberthuang` (dense and sparse) and `hilberthuang_1d`, for every non-decreasing
  edge vector, every frequency array (NaN = `none`, negative, on an edge, out of
  range), every amplitude array, both modes, every size.
-/
import Proofs.Lemmas.Spectra
import EmdModel.CycleStats

namespace C10
open Spectra

/-- `np.digitize` on non-decreasing edges: the result is `b+1` exactly when the value lies in
    the half-open bin `[e[b], e[b+1])`. -/
theorem digitize_spec (e : List Rat) (he : e.Pairwise (· ≤ ·)) (v : Rat) (b : Nat) (hb : b + 1 < e.length) :
    digitize e v = b + 1 ↔ e[b] ≤ v ∧ v < e[b + 1] :=
  Spectra.digitize_spec e he v b hb

/-- … it is `0` exactly below the first edge and `len` exactly at/above the last edge. -/
theorem digitize_out_of_range (e : List Rat) (he : e.Pairwise (· ≤ ·)) (v : Rat) (h : 0 < e.length) :
    (digitize e v = 0 ↔ v < e[0]) ∧ (digitize e v = e.length ↔ e[e.length - 1] ≤ v) :=
  ⟨digitize_eq_zero_iff e he v h, digitize_eq_length_iff e he v h⟩

/-- Exactly once: a sample lies in exactly one bin when `e[0] ≤ f < e[last]`, and in none when it is
    below the first edge (a negative frequency under non-negative edges, say), at/above the last edge, or NaN. -/
theorem exactly_one_bin (e : List Rat) (he : e.Pairwise (· ≤ ·)) (f : Freq) :
    (List.range (e.length - 1)).countP (fun b => inBin e b f) = if inRange e f then 1 else 0 := by
  simp only [inBin_eq_decide e he, ← binIdx_isSome_iff e he]
  cases h : binIdx e f with
  | none => simp
  | some k => simpa [binIdx_lt h, List.count, Bool.beq_eq_decide_eq, eq_comm] using
      List.count_range (a := k) (n := e.length - 1)

/-- **Out of range = no bin at all; in range = the left-closed bin, first edge included.**  A sample below the first
    edge (negative included), at/above the last edge, or NaN gets NO bin index — not the last bin (no wrap-around of
    `digitize − 1 = −1`), not the first (no clamp) — and lies in no bin interval; every other sample gets exactly
    the index `b` with `e[b] ≤ f < e[b+1]`.  A sample exactly on the first edge of a non-empty first bin is in bin 0. -/
theorem out_of_range_no_bin (e : List Rat) (he : e.Pairwise (· ≤ ·)) (f : Freq) :
    (inRange e f = false → binIdx e f = none ∧ ∀ b, inBin e b f = false) ∧
    (inRange e f = true → ∃ b, binIdx e f = some b ∧ b < e.length - 1 ∧ inBin e b f = true) ∧
    (∀ b, binIdx e f = some b ↔ inBin e b f = true) ∧
    (∀ (h : 1 < e.length), e[0] < e[1] → binIdx e (some e[0]) = some 0) := by
  have hiff := binIdx_eq_some_iff e he f
  have hsome := binIdx_isSome_iff e he f
  refine ⟨fun hr => ?_, fun hr => ?_, hiff, fun h hlt => ?_⟩
  · have hn : binIdx e f = none := by simpa [hr] using hsome
    exact ⟨hn, fun b => by rw [inBin_eq_decide e he, hn]; rfl⟩
  · obtain ⟨b, hb⟩ := Option.isSome_iff_exists.mp (hsome.trans hr)
    exact ⟨b, hb, binIdx_lt hb, (hiff b).mp hb⟩
  · exact (binIdx_eq_some_iff e he _ 0).mpr ((inBin_some e 0 _ h).mpr ⟨Rat.le_refl, hlt⟩)

/-- Dense spectrum = SPEC: cell `[b][t]` is `Σ_j w(a[t][j])·[e[b] ≤ f[t][j] < e[b+1]]`. In particular a
    sample below the first edge or at/above the last contributes to no cell. -/
theorem hht_dense_eq_spec (e : List Rat) (he : e.Pairwise (· ≤ ·)) (energy : Bool) (F : List (List Freq))
    (A : List (List Rat)) (hs : F.length = A.length) :
    hhtDense e energy F A = hhtSpec e energy F A := by
  unfold hhtDense hhtSpec
  rw [toDense_eq_tab, show F.length = (List.zip F A).length by simp [hs]]
  exact List.map_congr_left fun b _ => map_range_eq_map _ _ _ fun t ht => sumIf_hhtCoo e he energy F A b t ht

/-- Every sparse entry lies inside the `[bins × time]` shape (so `coo_matrix` accepts all of them and
    none is lost). -/
theorem hht_sparse_in_shape (e : List Rat) (energy : Bool) (F : List (List Freq)) (A : List (List Rat)) :
    ∀ x ∈ hhtCoo e energy F A, x.row < e.length - 1 ∧ x.col < F.length := by
  intro x hx
  obtain ⟨i, r, h1, h2⟩ := mem_cooFrom _ x 0 _ hx
  obtain ⟨hcol, f, hf⟩ := mem_hhtRowTripsWith h2
  have hi := (List.getElem?_eq_some_iff.mp h1).1
  rw [List.length_zip] at hi
  exact ⟨binIdx_lt hf, by omega⟩

/-- The sparse form holds exactly one entry per in-range sample (and none for the others). -/
theorem hht_sparse_one_per_sample (e : List Rat) (he : e.Pairwise (· ≤ ·)) (energy : Bool)
    (F : List (List Freq)) (A : List (List Rat)) :
    (hhtCoo e energy F A).length =
      ((List.zip F A).map fun r => (List.zip r.1 r.2).countP fun fa => inRange e fa.1).sum := by
  unfold hhtCoo
  exact length_cooFrom _ _ (fun t r => length_hhtRowTrips e he energy t r) 0 _

/-- Sparse form vs dense form: the dense matrix is the table whose cell `(b, t)` is the sum of the sparse
    entries at `(b, t)` (duplicates accumulate), and the total of the dense matrix equals the total of the
    sparse data. -/
theorem hht_sparse_eq_dense (e : List Rat) (energy : Bool) (F : List (List Freq)) (A : List (List Rat)) :
    hhtDense e energy F A = tab (e.length - 1) F.length (sumIf (hhtCoo e energy F A)) ∧
    ((hhtDense e energy F A).map List.sum).sum = ((hhtCoo e energy F A).map (·.val)).sum := by
  constructor
  · exact toDense_eq_tab _ _ _
  · unfold hhtDense
    rw [toDense_eq_tab, sum_tab_sumIf]
    apply sum_map_congr
    intro x hx
    have := hht_sparse_in_shape e energy F A x hx
    simp [this]

/-- … hence an array whose samples are ALL out of range (below the first edge, at/above the last, NaN)
    yields an empty sparse form and an all-zero dense spectrum: such samples add nothing to ANY bin. -/
theorem out_of_range_contributes_nowhere (e : List Rat) (he : e.Pairwise (· ≤ ·)) (energy : Bool) (F : List (List Freq))
    (A : List (List Rat)) (hall : ∀ r ∈ F, ∀ f ∈ r, inRange e f = false) :
    hhtCoo e energy F A = [] ∧ hhtDense e energy F A = zerosMat (e.length - 1) F.length := by
  have hlen : (hhtCoo e energy F A).length = 0 := by
    rw [hht_sparse_one_per_sample e he energy F A, sum_map_const _ _ 0 fun r hr =>
      List.countP_eq_zero.mpr fun fa hfa => by simp [hall _ (List.of_mem_zip hr).1 _ (List.of_mem_zip hfa).1],
      Nat.mul_zero]
  have hnil : hhtCoo e energy F A = [] := List.eq_nil_of_length_eq_zero hlen
  exact ⟨hnil, by unfold hhtDense; rw [hnil]; rfl⟩

/-- 1-D spectrum = SPEC: cell `[b][j]` is `Σ_t w(a[t][j])·[e[b] ≤ f[t][j] < e[b+1]]`. -/
theorem hht1d_eq_spec (e : List Rat) (he : e.Pairwise (· ≤ ·)) (energy : Bool) (M : Nat)
    (F : List (List Freq)) (A : List (List Rat)) :
    hht1d e energy M F A = hht1dSpec e energy M F A :=
  tab_congr _ _ (hht1dCell e energy (List.zip F A)) (hht1dSpecCell e energy (List.zip F A)) fun b j hb _ =>
    hht1dCell_eq_spec e he energy _ b j (by omega)

/-- Marginals agree: for every bin, the dense spectrum summed over time equals the 1-D spectrum summed
    over IMFs (`M` = number of IMF columns). -/
theorem hht_marginal (e : List Rat) (he : e.Pairwise (· ≤ ·)) (energy : Bool) (M : Nat)
    (F : List (List Freq)) (A : List (List Rat)) (hs : F.length = A.length) (hM : ∀ r ∈ F, r.length = M) :
    (hhtDense e energy F A).map List.sum = (hht1d e energy M F A).map List.sum := by
  rw [hht_dense_eq_spec e he energy F A hs, hht1d_eq_spec e he]
  unfold hhtSpec hht1dSpec
  simp only [List.map_map, Function.comp_def]
  apply List.map_congr_left
  intro b _
  unfold hht1dSpecCell rowSpec
  rw [sum_map_comm]
  apply sum_map_congr
  intro r hr
  symm
  apply sum_range_getElem?
  rw [List.length_zip, hM r.1 (List.of_mem_zip hr).1]
  exact Nat.min_le_left _ _

/-- Total: the whole spectrum sums to the total weight of the in-range samples
    (`e[0] ≤ f < e[last]`); out-of-range and NaN samples contribute nothing. -/
theorem hht_total (e : List Rat) (he : e.Pairwise (· ≤ ·)) (energy : Bool) (F : List (List Freq))
    (A : List (List Rat)) (hs : F.length = A.length) :
    ((hhtDense e energy F A).map List.sum).sum =
      ((List.zip F A).map fun r =>
        ((List.zip r.1 r.2).map fun fa => if inRange e fa.1 then weight energy fa.2 else 0).sum).sum := by
  rw [hht_dense_eq_spec e he energy F A hs]
  unfold hhtSpec rowSpec
  simp only [List.map_map, Function.comp_def]
  rw [sum_map_comm]
  apply sum_map_congr
  intro r _
  rw [sum_map_comm]
  apply sum_map_congr
  intro fa _
  exact sum_bins_inBin e he fa.1 _

/-- Energy mode squares the amplitude: the energy spectrum is the amplitude spectrum of the squared
    amplitudes (dense, sparse and 1-D), and each entry carries `a²`. -/
theorem energy_is_square (e : List Rat) (F : List (List Freq)) (A : List (List Rat)) (M : Nat) :
    hhtCoo e true F A = hhtCoo e false F (A.map fun r => r.map fun a => a * a) ∧
    hhtDense e true F A = hhtDense e false F (A.map fun r => r.map fun a => a * a) ∧
    hht1d e true M F A = hht1d e false M F (A.map fun r => r.map fun a => a * a) := by
  have hcoo : hhtCoo e true F A = hhtCoo e false F (A.map fun r => r.map fun a => a * a) := by
    unfold hhtCoo
    rw [List.zip_map_right]
    refine cooFrom_map (fun t r => ?_) 0 _
    simp only [hhtRowTrips, hhtRowTripsWith, Prod.map, id, List.zip_map_right, List.filterMap_map,
      Function.comp_def, weight]
    rfl
  refine ⟨hcoo, by unfold hhtDense; rw [hcoo], ?_⟩
  unfold hht1d
  refine List.map_congr_left fun b _ => List.map_congr_left fun j _ => ?_
  unfold hht1dCell
  rw [List.zip_map_right, List.map_map]
  apply sum_map_congr
  intro r _
  simp only [Function.comp_def, Prod.map, id, List.zip_map_right, List.getElem?_map]
  cases (List.zip r.1 r.2)[j]? <;> simp [weight]

/-- D8 (pinned tree): with the clamp `yinds[yinds < 0] = 0` a single sample below the first edge is
    counted in the first bin, so the pinned dense spectrum differs from the SPEC (and from the
    repaired model) on `f = 1/2, a = 3, edges = [1, 2]`. -/
theorem hht_below_range_pinned :
    hhtDensePinned [1, 2] false [[some (1/2)]] [[3]] = [[3]] ∧
    hhtSpec [1, 2] false [[some (1/2)]] [[3]] = [[0]] ∧
    hhtDense [1, 2] false [[some (1/2)]] [[3]] = [[0]] := by
  refine ⟨by decide +kernel, by decide +kernel, by decide +kernel⟩

/-! Non-vacuity: strictly increasing edges, samples below / on edges / inside / on the last edge /
    above / negative / NaN; the hypotheses of the theorems hold and the spectrum is not trivial. -/
example : ([1, 2, 4] : List Rat).Pairwise (· ≤ ·) := by decide +kernel
example : hhtDense [1, 2, 4] true
      [[some (1/2), some 1], [some 3, some 4], [some (-1), none], [some 2, some (3/2)]]
      [[1, 2], [3, 4], [5, 6], [7, 8]] = [[4, 0, 0, 64], [0, 9, 0, 49]] := by decide +kernel
example : hht1d [1, 2, 4] true 2
      [[some (1/2), some 1], [some 3, some 4], [some (-1), none], [some 2, some (3/2)]]
      [[1, 2], [3, 4], [5, 6], [7, 8]] = [[0, 68], [58, 0]] := by decide +kernel
-- all samples out of range (below, on the last edge, above, negative, NaN): nothing anywhere — not in the last bin either
example : hhtDense [1, 2, 4] false [[some (1/2), some 4], [some (-3), none], [some 5, some 0]] [[1, 2], [3, 4], [5, 6]]
    = [[0, 0, 0], [0, 0, 0]] := by decide +kernel
example : ∀ r ∈ [[some (1/2), some 4], [some (-3), none], [some 5, some (0 : Rat)]], ∀ f ∈ r, inRange [1, 2, 4] f = false := by
  decide +kernel
-- a sample exactly on the first edge is in the first bin
example : binIdx [1, 2, 4] (some 1) = some 0 ∧ binIdx [1, 2, 4] (some (1/2)) = none ∧ binIdx [1, 2, 4] (some 4) = none := by
  decide +kernel
example : inRange [1, 2, 4] (some 1) = true ∧ inRange [1, 2, 4] (some 4) = false ∧
    inRange [1, 2, 4] (some (1/2)) = false ∧ inRange [1, 2, 4] none = false := by decide +kernel

/-- The histogram model and the phase-binning model (C14, `bin_by_phase`) use one and the same model of
    `np.digitize` (increasing bins, right=False), so `digitize_spec` above also characterises phase bins. -/
theorem digitize_shared_with_phase_binning (e : List Rat) (v : Rat) :
    Spectra.digitize e v = CycleStats.digitize e v := rfl

end C10
