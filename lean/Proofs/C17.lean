/-
  C17 — feature matching returns a valid one-to-one pairing.
  Property theorems only (helper lemmas: Proofs/Lemmas/Kdt.lean).

  `kdtMatch D inds ny K` is the model of `emd.cycles.kdt_match` after its KD-tree query returned
  `(D, inds)` (`nx = inds.length` rows, `K` columns, `ny` rows in `y`); `.1` is `x_inds`, `.2` is `y_inds`.
  `WFQuery D inds ny K bound` is the contract of `cKDTree(y).query(x, k=K, distance_upper_bound=bound)`;
  its executable form `wfCheck` is evaluated by the model driver on every real query result of a run.

  Clause by clause — what is a theorem, what is oracle-level, what is instance-only:
  * equal length, no row of either set twice, every index in range:     THEOREMS, hypothesis-free
    (`kdt_len_eq`, `kdt_x_distinct_inrange`, `kdt_y_inrange`, `kdt_y_injective`, `kdt_pairs_one_to_one`) —
    they hold for EVERY table `(D, inds)`, also for one a broken KD-tree would return.
  * "every matched candidate is among the K nearest neighbours of its partner":
      THEOREM   `kdt_knn_member`: the partner is an entry (column c < K) of the QUERY ROW of x;
      ORACLE    that a query row consists of the K nearest rows of y is scipy's contract.  It is stated
                as the hypothesis `KNNContract dist …` (relative to an arbitrary distance table `dist`), under which
                `kdt_among_K_nearest` derives the clause in the property's own words (fewer than K rows of
                y are strictly closer).  `KNNContract` is NOT executable in the model (it quantifies over
                all rows of y and needs the coordinates): it is checked at run time by brute force in
                c17.py (`pairing_failures`: Euclidean distances recomputed from the coordinates,
                kind `y-not-among-K-nearest`), independently of the KD-tree and of the model.
  * "no matched pair is farther apart than the distance bound":
      THEOREM   `kdt_knn_member` bounds the REPORTED distance `D[x][c]` (hypothesis `WFQuery.within`,
                executable, validated on every real query);
      ORACLE    that the reported distance is the true Euclidean distance (`KNNContract.exact`) —
                run-time brute force, kind `pair-beyond-bound`.
  * "rows without a unique admissible neighbour are omitted":            THEOREMS (`kdt_matched_iff(_wf)`,
    `kdt_row_marked_at_most_once`, `kdt_marks_greedy`, `kdt_closest_claimant`, `kdt_first_neighbour_matched`).
  Not modelled (handler / instance level only): promotion of 1-D inputs, feature-count mismatch, K > ny,
  K = 0, NaN coordinates.
-/
import Proofs.Lemmas.Kdt

namespace C17
open Kdt

/-- The two returned index lists are equally long. -/
theorem kdt_len_eq (D : List (List Dist)) (inds : List (List Nat)) (ny K : Nat) :
    (kdtMatch D inds ny K).1.length = (kdtMatch D inds ny K).2.length :=
  matchWith_len

/-- The matched rows of `x` are listed in strictly increasing order — so none appears twice — and
    every one is a row of `x`. -/
theorem kdt_x_distinct_inrange (D : List (List Dist)) (inds : List (List Nat)) (ny K : Nat) :
    (kdtMatch D inds ny K).1.Pairwise (· < ·) ∧ (kdtMatch D inds ny K).1.Nodup ∧
      ∀ x ∈ (kdtMatch D inds ny K).1, x < inds.length := by
  have h := matchWith_x_sorted uniqueInds inds.length ny K (indsAt inds) (dAt D)
  refine ⟨h.1, ?_, h.2⟩
  exact h.1.imp (fun hlt => Nat.ne_of_lt hlt)

/-- Every matched index of `y` is a row of `y` (never the padding value `ny`). -/
theorem kdt_y_inrange (D : List (List Dist)) (inds : List (List Nat)) (ny K : Nat) :
    ∀ y ∈ (kdtMatch D inds ny K).2, y < ny := by
  intro y hy
  obtain ⟨x, _, hf⟩ := List.mem_filterMap.mp hy
  obtain ⟨c, _, _, _, hlt⟩ := finalOf_some hf
  exact hlt

/-- Every returned pair `(x, y)` sits in the query result: `y` is one of the `K` neighbours reported for
    row `x` (column `c < K`), at a finite distance that does not exceed the distance bound. -/
theorem kdt_knn_member {D : List (List Dist)} {inds : List (List Nat)} {ny K : Nat} {bound : Dist}
    (h : WFQuery D inds ny K bound) :
    ∀ p ∈ (kdtMatch D inds ny K).1.zip (kdtMatch D inds ny K).2,
      ∃ c, c < K ∧ indsAt inds p.1 c = p.2 ∧
        ∃ dist : Rat, dAt D p.1 c = some dist ∧ dle (some dist) bound = true := by
  rintro ⟨x, y⟩ hp
  obtain ⟨hx, c, hm, _, rfl, hlt⟩ := (mem_matchWith_zip_iff uniqueInds_occSound).mp hp
  have hc := M_runCols_lt hm
  have hfin := (h.finite_iff x c hx hc).mp hlt
  obtain ⟨dist, hd⟩ := Option.isSome_iff_exists.mp hfin
  exact ⟨c, hc, rfl, dist, hd, hd ▸ h.within x c hx hc hfin⟩

/-- scipy's contract for `cKDTree(y).query(x, k=K)` relative to a distance `dist r j` between row `r` of
    `x` and row `j` of `y` — ORACLE level: not executable in the model, checked by brute force at run
    time.  `exact`: a reported distance is the distance to the reported row; `nearest`: a row of `y`
    that is not listed for `r` is at least as far from `r` as every row that is listed. -/
structure KNNContract (dist : Nat → Nat → Rat) (D : List (List Dist)) (inds : List (List Nat)) (ny K : Nat) : Prop where
  exact : ∀ r c, r < inds.length → c < K → indsAt inds r c < ny → dAt D r c = some (dist r (indsAt inds r c))
  nearest : ∀ r c y', r < inds.length → c < K → indsAt inds r c < ny → y' < ny →
    (∀ c', c' < K → indsAt inds r c' ≠ y') → dist r (indsAt inds r c) ≤ dist r y'

/-- The K-NN clause in the property's own words, RELATIVE to the oracle contract: for every returned
    pair `(x, y)` the true distance `dist x y` does not exceed the bound, and fewer than `K` rows of `y`
    are strictly closer to `x` than `y` is (any duplicate-free list of such rows has length < K). -/
theorem kdt_among_K_nearest {D : List (List Dist)} {inds : List (List Nat)} {ny K : Nat} {bound : Dist}
    (dist : Nat → Nat → Rat) (h : WFQuery D inds ny K bound) (hk : KNNContract dist D inds ny K) :
    ∀ p ∈ (kdtMatch D inds ny K).1.zip (kdtMatch D inds ny K).2,
      dle (some (dist p.1 p.2)) bound = true ∧
      ∀ ys : List Nat, ys.Nodup → (∀ y' ∈ ys, y' < ny ∧ dist p.1 y' < dist p.1 p.2) → ys.length < K := by
  rintro ⟨x, y⟩ hp
  obtain ⟨hx, c, hm, _, rfl, hreal⟩ := (mem_matchWith_zip_iff uniqueInds_occSound).mp hp
  have hc := M_runCols_lt hm
  have hb := h.within x c hx hc ((h.finite_iff x c hx hc).mp hreal)
  rw [hk.exact x c hx hc hreal] at hb
  refine ⟨hb, fun ys hnd hys => ?_⟩
  -- every strictly closer row is listed in the query row of x, at a column other than c
  have hsub : ys ⊆ ((List.range K).erase c).map (indsAt inds x) := by
    intro y' hy'
    obtain ⟨hlt, hcl⟩ := hys y' hy'
    obtain ⟨c', hc', rfl⟩ : ∃ c', c' < K ∧ indsAt inds x c' = y' := Classical.byContradiction fun hno =>
      Rat.not_lt.mpr (hk.nearest x c y' hx hc hreal hlt fun c' hc' he => hno ⟨c', hc', he⟩) hcl
    have hne : c' ≠ c := fun e => Rat.lt_irrefl (e ▸ hcl)
    exact List.mem_map.mpr ⟨c', (List.mem_erase_of_ne hne).mpr (List.mem_range.mpr hc'), rfl⟩
  have hle := hnd.length_le_of_subset hsub
  rw [List.length_map, List.length_erase_of_mem (List.mem_range.mpr hc), List.length_range] at hle
  omega

/-- One-to-one: no row of `y` is matched twice.  (Loop invariant `Kdt.Inv`: after every column the
    marks form a partial injection from rows of `x` to `selected` values.)  This needs nothing from the
    query — it holds for every table `(D, inds)`. -/
theorem kdt_y_injective (D : List (List Dist)) (inds : List (List Nat)) (ny K : Nat) :
    (kdtMatch D inds ny K).2.Nodup :=
  matchWith_y_nodup uniqueInds_occSound

/-- The pairing is a bijection between the matched rows: two returned pairs that share a member are
    the same pair. -/
theorem kdt_pairs_one_to_one (D : List (List Dist)) (inds : List (List Nat)) (ny K : Nat) :
    ∀ p ∈ (kdtMatch D inds ny K).1.zip (kdtMatch D inds ny K).2,
    ∀ q ∈ (kdtMatch D inds ny K).1.zip (kdtMatch D inds ny K).2,
      (p.1 = q.1 ∨ p.2 = q.2) → p = q := by
  intro p hp q hq hpq
  obtain ⟨_, hfp⟩ := mem_matchWith_zip_finalOf.mp hp
  obtain ⟨_, hfq⟩ := mem_matchWith_zip_finalOf.mp hq
  -- the partner is a function of the row, and no candidate is the partner of two rows
  rcases hpq with h1 | h2
  · exact Prod.ext h1 (Option.some.inj ((hfp.symm.trans (h1 ▸ hfq))))
  · exact Prod.ext (finalOf_inj (Inv_runCols uniqueInds_occSound) hfp (h2 ▸ hfq)) h2

/-- A one-to-one pairing can use no row of either set twice, so it never has more pairs than the smaller
    set has rows: `len(x_inds) ≤ min(nx, ny)` (and `len(y_inds)` is the same number, `kdt_len_eq`) — for EVERY
    table `(D, inds)`. -/
theorem kdt_count_le_min (D : List (List Dist)) (inds : List (List Nat)) (ny K : Nat) :
    (kdtMatch D inds ny K).1.length ≤ min inds.length ny := by
  have hx := kdt_x_distinct_inrange D inds ny K
  have h1 := length_le_of_nodup_lt inds.length _ hx.2.1 hx.2.2
  have h2 := length_le_of_nodup_lt ny _ (kdt_y_injective D inds ny K) (kdt_y_inrange D inds ny K)
  rw [← kdt_len_eq] at h2
  omega

/-- No row of the marker matrix ever holds two marks: the test `sum(II[r, :]) == 1` of the winner
    extraction can only fail with a sum of 0.  ("Rows without a unique admissible neighbour are omitted": which
    rows those are is `kdt_matched_iff` and, for a well-formed query, `kdt_matched_iff_wf`.) -/
theorem kdt_row_marked_at_most_once (D : List (List Dist)) (inds : List (List Nat)) (K : Nat) (r : Nat) :
    (rowMarks (runCols uniqueInds inds.length (indsAt inds) (dAt D) K).cols r).count true ≤ 1 :=
  rowMarks_count_le_one fun c c' => (Inv_runCols uniqueInds_occSound).one c c' r

/-- A row is returned exactly when it holds a mark in a column `c < ny` whose entry is a real row of `y`;
    the entry under that mark is its partner. -/
theorem kdt_matched_iff (D : List (List Dist)) (inds : List (List Nat)) (ny K : Nat) (x y : Nat) :
    (x, y) ∈ (kdtMatch D inds ny K).1.zip (kdtMatch D inds ny K).2 ↔
      x < inds.length ∧ ∃ c, M (runCols uniqueInds inds.length (indsAt inds) (dAt D) K).cols c x = true ∧
        c < ny ∧ indsAt inds x c = y ∧ y < ny :=
  mem_matchWith_zip_iff uniqueInds_occSound

/-- For a well-formed query result the extra test `winner[r] < y.shape[0]` of the code (a COLUMN number compared
    with the number of rows of `y`) never rejects anything — real neighbours can only sit in the first `ny`
    columns — so a row is returned exactly when it holds a mark on a real row of `y`, and omitted otherwise. -/
theorem kdt_matched_iff_wf {D : List (List Dist)} {inds : List (List Nat)} {ny K : Nat} {bound : Dist}
    (h : WFQuery D inds ny K bound) (x y : Nat) :
    (x, y) ∈ (kdtMatch D inds ny K).1.zip (kdtMatch D inds ny K).2 ↔
      x < inds.length ∧ ∃ c, M (runCols uniqueInds inds.length (indsAt inds) (dAt D) K).cols c x = true ∧
        indsAt inds x c = y ∧ y < ny := by
  rw [kdt_matched_iff]
  constructor
  · rintro ⟨hx, c, hm, _, hv, hy⟩
    exact ⟨hx, c, hm, hv, hy⟩
  · rintro ⟨hx, c, hm, hv, hy⟩
    exact ⟨hx, c, hm, col_lt_ny_of_real h hx (M_runCols_lt hm) (by rw [hv]; exact hy), hv, hy⟩

/-- Greedy specification of the marker matrix: row `r` is marked in column `c` exactly when it is the
    closest claimant of its `c`-th neighbour (smallest distance among the rows whose `c`-th neighbour is the
    same candidate, first such row on ties), that candidate is under no mark of an earlier column, and `r`
    holds no mark in an earlier column. -/
theorem kdt_marks_greedy (D : List (List Dist)) (inds : List (List Nat)) {K c : Nat} (hc : c < K) (r : Nat) :
    M (runCols uniqueInds inds.length (indsAt inds) (dAt D) K).cols c r = true ↔
      r < inds.length ∧ claimant inds.length (indsAt inds) (dAt D) c (indsAt inds r c) = some r ∧
      (∀ c' r', c' < c → M (runCols uniqueInds inds.length (indsAt inds) (dAt D) K).cols c' r' = true →
        indsAt inds r' c' ≠ indsAt inds r c) ∧
      ∀ c', c' < c → M (runCols uniqueInds inds.length (indsAt inds) (dAt D) K).cols c' r = false :=
  M_runCols_greedy hc r

/-- Each candidate goes to its closest claimant: a returned pair `(x, y)` was formed in a column `c` in which
    no other row having `y` as its `c`-th neighbour is strictly closer to `y` than `x` is. -/
theorem kdt_closest_claimant (D : List (List Dist)) (inds : List (List Nat)) (ny K : Nat) :
    ∀ p ∈ (kdtMatch D inds ny K).1.zip (kdtMatch D inds ny K).2,
      ∃ c, c < K ∧ indsAt inds p.1 c = p.2 ∧
        ∀ r', r' < inds.length → indsAt inds r' c = p.2 → dle (dAt D p.1 c) (dAt D r' c) = true := by
  rintro ⟨x, y⟩ hp
  obtain ⟨_, c, hm, _, rfl, _⟩ := (mem_matchWith_zip_iff uniqueInds_occSound).mp hp
  have hc := M_runCols_lt hm
  have hcl := ((M_runCols_greedy hc x).mp hm).2.1
  exact ⟨c, hc, rfl, (claimant_spec hcl).2.2⟩

/-- Nothing admissible is wasted in the first column: every row of `y` that is the nearest neighbour of some
    row of `x` is matched, and it is matched to a row that has it as nearest neighbour at the smallest
    distance. -/
theorem kdt_first_neighbour_matched (D : List (List Dist)) (inds : List (List Nat)) (ny K : Nat) (hK : 0 < K)
    (r : Nat) (hr : r < inds.length) (hv : indsAt inds r 0 < ny) :
    ∃ x, (x, indsAt inds r 0) ∈ (kdtMatch D inds ny K).1.zip (kdtMatch D inds ny K).2 ∧
      indsAt inds x 0 = indsAt inds r 0 ∧ dle (dAt D x 0) (dAt D r 0) = true := by
  obtain ⟨x, hx⟩ := claimant_isSome (indsAt inds) (dAt D) 0 hr
  obtain ⟨hxlt, hxv, hmin⟩ := claimant_spec hx
  have hmark : M (runCols uniqueInds inds.length (indsAt inds) (dAt D) K).cols 0 x = true :=
    (M_runCols_zero hK x).mpr ⟨hxlt, by rw [hxv]; exact hx⟩
  exact ⟨x, (mem_matchWith_zip_iff uniqueInds_occSound).mpr ⟨hxlt, 0, hmark, by omega, hxv, hv⟩, hxv, hmin r hr rfl⟩

/-! ## K = 1 (with any bound) and the direction of the K-nearest clause -/

/-- **K = 1, complete specification** (the query squeezes its output to vectors there; the model, like the
    repaired code, works on one column): a pair `(x, y)` is returned exactly when `y` is a real row of `y`, it
    is the (single) reported neighbour of row `x`, and `x` is the closest claimant of `y` — the first row at
    the smallest reported distance among the rows whose neighbour is `y`.  Every other row is omitted. -/
theorem kdt_K1_spec (D : List (List Dist)) (inds : List (List Nat)) (ny x y : Nat) :
    (x, y) ∈ (kdtMatch D inds ny 1).1.zip (kdtMatch D inds ny 1).2 ↔
      x < inds.length ∧ indsAt inds x 0 = y ∧ y < ny ∧
        claimant inds.length (indsAt inds) (dAt D) 0 y = some x := by
  rw [kdt_matched_iff]
  constructor
  · rintro ⟨hx, c, hm, _, hv, hy⟩
    obtain rfl : c = 0 := Nat.lt_one_iff.mp (M_runCols_lt hm)
    exact ⟨hx, hv, hy, hv ▸ ((M_runCols_zero Nat.one_pos x).mp hm).2⟩
  · rintro ⟨hx, hv, hy, hcl⟩
    exact ⟨hx, 0, (M_runCols_zero Nat.one_pos x).mpr ⟨hx, by rw [hv]; exact hcl⟩, Nat.zero_lt_of_lt hy, hv, hy⟩

/-- **K = 1 with a distance bound, in the property's words** (relative to the query oracle's contract): for
    every returned pair `(x, y)`, `y` is A NEAREST row of `y` to `x` — no row of `y` is strictly closer — and
    the pair is not farther apart than the bound, finite or not. -/
theorem kdt_K1_nearest_within_bound {D : List (List Dist)} {inds : List (List Nat)} {ny : Nat} {bound : Dist}
    (dist : Nat → Nat → Rat) (h : WFQuery D inds ny 1 bound) (hk : KNNContract dist D inds ny 1) :
    ∀ p ∈ (kdtMatch D inds ny 1).1.zip (kdtMatch D inds ny 1).2,
      dle (some (dist p.1 p.2)) bound = true ∧ ∀ y', y' < ny → dist p.1 p.2 ≤ dist p.1 y' := by
  intro p hp
  obtain ⟨hb, hnear⟩ := kdt_among_K_nearest dist h hk p hp
  -- a strictly closer row would be a list of `K = 1` such rows
  refine ⟨hb, fun y' hy' => Rat.not_lt.mp fun hlt => Nat.lt_irrefl 1 ?_⟩
  exact hnear [y'] (List.pairwise_singleton _ y') fun z hz => by rw [List.mem_singleton.mp hz]; exact ⟨hy', hlt⟩

/-- **The K-nearest clause is one-sided.**  `kdt_among_K_nearest` says the matched row of `y` is among the K
    nearest rows of `y` to ITS partner in `x`; the converse direction is NOT a property of the pairing: on a
    well-formed query that meets the oracle contract (x = 0, 9, 11 and y = 5, 11.4 on a line, K = 1, bound 6)
    the pair (x₀, y₀) is returned although K other rows of `x` (x₁) are strictly closer to y₀ than x₀ is — x₁
    has a nearer neighbour of its own.  A check (or a change of the code) that evaluates neighbourhoods from the
    side of `y` states something else. -/
theorem kdt_nearest_clause_one_sided :
    ∃ (dist : Nat → Nat → Rat) (D : List (List Dist)) (inds : List (List Nat)) (ny K : Nat) (bound : Dist),
      WFQuery D inds ny K bound ∧ KNNContract dist D inds ny K ∧
      ∃ p ∈ (kdtMatch D inds ny K).1.zip (kdtMatch D inds ny K).2,
        ∃ xs : List Nat, xs.Nodup ∧ xs.length = K ∧ ∀ x' ∈ xs, x' < inds.length ∧ dist x' p.2 < dist p.1 p.2 := by
  refine ⟨fun r j => (([[5, 57/5], [4, 12/5], [6, 2/5]] : List (List Rat))[r]!)[j]!,
    [[some 5], [some (12/5)], [some (2/5)]], [[0], [1], [1]], 2, 1, some 6,
    (wfCheck_iff ..).mp (by decide +kernel), ?_, (0, 0), by decide +kernel, [1], List.pairwise_singleton _ 1, rfl, ?_⟩
  · constructor
    · intro r c hr hc
      revert c; revert r
      decide +kernel
    · intro r c y' hr hc hreal hy'
      revert y'; revert hreal; revert c
      have hr' : r = 0 ∨ r = 1 ∨ r = 2 := by simp at hr; omega
      rcases hr' with rfl | rfl | rfl <;> decide +kernel
  · intro x' hx'
    obtain rfl := List.mem_singleton.mp hx'
    exact ⟨by decide, by decide +kernel⟩

/-- The same loop with the occurrence lookup of the pinned code (`_unique_inds` returning positions in
    the sorted copy, defect D13) is NOT one-to-one, on a well-formed query result:
    x = [0, 1, 1], y = [2], K = 2, bound 1.5 matches row 0 of y to rows 1 and 2 of x. -/
theorem kdt_sortedpos_not_injective :
    ∃ D inds ny K bound, WFQuery D inds ny K bound ∧ ¬ (kdtMatchSortedPos D inds ny K).2.Nodup :=
  ⟨[[none, none], [some 1, none], [some 1, none]], [[1, 1], [0, 1], [0, 1]], 1, 2, some (3/2),
    (wfCheck_iff ..).mp (by decide +kernel), by decide +kernel⟩

/-! Non-vacuity: a well-formed query result (3 rows of x, 3 rows of y, K = 2, no bound) on which every row
    is matched, and one (3 rows of x all claiming the same 2 rows of y) where the closest claimant of each
    candidate wins and the remaining row is omitted. -/
example : WFQuery [[some 0, some 1], [some (1/2), some 2], [some 0, some 1]] [[1, 0], [2, 0], [0, 1]] 3 2 none :=
  (wfCheck_iff ..).mp (by decide +kernel)
example : kdtMatch [[some 0, some 1], [some (1/2), some 2], [some 0, some 1]] [[1, 0], [2, 0], [0, 1]] 3 2
    = ([0, 1, 2], [1, 2, 0]) := by decide +kernel
example : kdtMatch [[some 1, some 2], [some (1/2), some 3], [some 0, some 4]] [[0, 1], [0, 1], [0, 1]] 2 2
    = ([0, 2], [1, 0]) := by decide +kernel

/-! Non-vacuity of the oracle contract: x = (0, 4), y = (0, 1, 5) on the line, K = 2, `dist r j = |x_r − y_j|`.
    The query table below is well formed AND satisfies `KNNContract`, so `kdt_among_K_nearest` applies. -/
def demoDist (r j : Nat) : Rat := (([[0, 1, 5], [4, 3, 1]] : List (List Rat))[r]!)[j]!

example : WFQuery [[some 0, some 1], [some 1, some 3]] [[0, 1], [2, 1]] 3 2 none :=
  (wfCheck_iff ..).mp (by decide +kernel)

example : KNNContract demoDist [[some 0, some 1], [some 1, some 3]] [[0, 1], [2, 1]] 3 2 := by
  -- a concrete table: both clauses are evaluated (row by row for the second, whose instance is too deep in one piece)
  constructor
  · intro r c hr hc
    revert c; revert r
    decide +kernel
  · intro r c y' hr hc hreal hy'
    revert y'; revert hreal; revert c
    have hr' : r = 0 ∨ r = 1 := by simp at hr; omega
    rcases hr' with rfl | rfl <;> decide +kernel

example : kdtMatch [[some 0, some 1], [some 1, some 3]] [[0, 1], [2, 1]] 3 2 = ([0, 1], [0, 2]) := by decide +kernel

-- K = 1 with a finite bound: the hypotheses of `kdt_K1_nearest_within_bound` are met by the table of
-- `kdt_nearest_clause_one_sided`, whose pairing is (x₀, y₀), (x₂, y₁); x₁ is omitted (its neighbour went to a closer claimant)
example : kdtMatch [[some 5], [some (12/5)], [some (2/5)]] [[0], [1], [1]] 2 1 = ([0, 2], [0, 1]) := by decide +kernel
example : WFQuery [[some 5], [some (12/5)], [some (2/5)]] [[0], [1], [1]] 2 1 (some 6) :=
  (wfCheck_iff ..).mp (by decide +kernel)

end C17
