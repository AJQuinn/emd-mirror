/- The well-formedness predicate `WF` on cycle vectors, and lemmas about the twelve maps and six projections of
   EmdModel.Maps: the subset and chain vectors in terms of the maps, the projection loop as a map over the label vector,
   `WF` from a block decomposition, the composite maps as two lookups chained by `andThen`. -/
import Proofs.Lemmas.MapsCtor

namespace Maps

/-- A well-formed cycle vector with K cycles: labels -1 or 0..K-1, every label used, labels
    non-decreasing along the recording, each label one contiguous block; -1 gaps anywhere. -/
structure WF (cv : List Int) (K : Nat) : Prop where
  range : ∀ l ∈ cv, -1 ≤ l ∧ l < (K : Int)
  occurs : ∀ k : Nat, k < K → (k : Int) ∈ cv
  ordered : ∀ (i j : Nat) (a b : Int), i ≤ j → cv[i]? = some a → cv[j]? = some b →
    0 ≤ a → 0 ≤ b → a ≤ b
  contiguous : ∀ (i m j : Nat) (a : Int), i ≤ m → m ≤ j → cv[i]? = some a → cv[j]? = some a →
    0 ≤ a → cv[m]? = some a

theorem WF.lt {cv : List Int} {K : Nat} (hwf : WF cv K) {i k : Nat} (h : cv[i]? = some (k : Int)) : k < K := by
  have := (hwf.range _ (List.mem_of_getElem? h)).2
  omega

/-- value carried to an item whose forward map is `r` -/
def valAt (vals : Vals) (r : Option Nat) : Option Rat := r.bind fun k => (vals[k]?).join

/-- the cycle named by subset index j (meaningful when exactly one cycle carries j) -/
def cycleOf (sv : List Int) (j : Nat) : Nat := (whereEq sv j).headD 0

/-! ### subset vector facts in terms of the maps -/

section
variable {valids : List Bool}

theorem selected_cycleOf {m : Nat} (hm : m < valids.count true) :
    (selected (subsetVector valids))[m]? = some (cycleOf (subsetVector valids) m) := by
  rw [← selected_subsetVector_length] at hm
  rw [cycleOf, whereEq_subsetVector, List.getElem?_eq_getElem hm]; rfl

theorem subset_singleton {j : Nat} (hj : j < valids.count true) :
    whereEq (subsetVector valids) j = [cycleOf (subsetVector valids) j] := by
  rw [whereEq_subsetVector, selected_cycleOf hj]; rfl

theorem subset_none_of_ge {j : Nat} (hj : valids.count true ≤ j) :
    whereEq (subsetVector valids) j = [] := by
  rw [whereEq_subsetVector, List.getElem?_eq_none (by rw [selected_subsetVector_length]; exact hj)]; rfl

theorem subset_lookup_iff {k j : Nat} :
    (subsetVector valids)[k]? = some (j : Int) ↔ j < valids.count true ∧ cycleOf (subsetVector valids) j = k := by
  rw [← mem_whereEq]
  rcases Nat.lt_or_ge j (valids.count true) with hj | hj
  · simp [subset_singleton hj, hj, eq_comm]
  · simp [subset_none_of_ge hj, Nat.not_lt.mpr hj]

theorem cycleOf_lt {j : Nat} (hj : j < valids.count true) :
    cycleOf (subsetVector valids) j < valids.length := by
  have := (List.getElem?_eq_some_iff.mp (subset_lookup_iff.mpr ⟨hj, rfl⟩)).1
  rwa [subsetVector, subsetFrom_length] at this

theorem mapSubsetToSample_eq {cv : List Int} {j : Nat} (hj : j < valids.count true) :
    mapSubsetToSample (subsetVector valids) cv j =
      .ok (mapCycleToSamples cv (cycleOf (subsetVector valids) j)) := by
  unfold mapSubsetToSample mapSubsetToCycle
  rw [subset_singleton hj]

/-! ### chain vector facts -/

theorem chain_lookup {sv : List Int} {j : Nat} {c : Int} (h : (chainVector sv)[j]? = some c) :
    0 ≤ c ∧ c.toNat < nLabels (chainVector sv) := by
  have hm := List.mem_of_getElem? h
  have h0 := chainVector_nonneg hm
  exact ⟨h0, toNat_lt_nLabels h0 hm⟩

theorem mem_chain_lt {c j : Nat} (hj : j ∈ whereEq (chainVector (subsetVector valids)) c) : j < valids.count true := by
  rw [← selected_subsetVector_length, ← chainVector_length]; exact whereEq_lt hj

end

/-! ### squeeze / hstack -/

theorem singletons?_map {L : List (List Nat)} (h : ∀ l ∈ L, ∃ k, l = [k]) :
    singletons? L = some (L.map (·.headD 0)) := by
  induction L with
  | nil => rfl
  | cons l t ih =>
    obtain ⟨k, rfl⟩ := h l (by simp)
    simp only [singletons?, ih (fun l hl => h l (List.mem_cons_of_mem _ hl))]
    rfl

theorem collect_map {f : Nat → Except Err (List Nat)} {g : Nat → List Nat} {js : List Nat}
    (h : ∀ j ∈ js, f j = .ok (g j)) : collect (js.map f) = .ok (js.flatMap g) := by
  induction js with
  | nil => rfl
  | cons j t ih =>
    simp only [List.map_cons, h j (by simp), collect, ih (fun j hj => h j (List.mem_cons_of_mem _ hj))]
    simp

/-! ### projections -/

theorem assignAt_length (out : Vals) (inds : List Nat) (v : Option Rat) :
    (assignAt out inds v).length = out.length := by
  unfold assignAt
  induction inds generalizing out with
  | nil => rfl
  | cons i t ih => simp [ih]

theorem assignAt_getElem? {out : Vals} {inds : List Nat} {v : Option Rat} {i : Nat} (hi : i < out.length) :
    (assignAt out inds v)[i]? = if i ∈ inds then some v else out[i]? := by
  unfold assignAt
  induction inds generalizing out with
  | nil => simp
  | cons j t ih =>
    simp only [List.foldl_cons]
    rw [ih (by simpa using hi)]
    by_cases h1 : i ∈ t
    · simp [h1]
    · by_cases h2 : j = i
      · subst h2; simp [h1, hi]
      · have : ¬ i = j := fun h => h2 h.symm
        simp [h1, this, h2]

theorem assignAt_map (v : List Int) (g : Int → Option Rat) (k : Nat) (x : Option Rat) :
    assignAt (v.map g) (whereEq v k) x = v.map fun l => if l = (k : Int) then x else g l := by
  apply List.ext_getElem?
  intro i
  by_cases hi : i < v.length
  · rw [assignAt_getElem? (by simpa using hi)]
    simp only [mem_whereEq, List.getElem?_map, List.getElem?_eq_getElem hi, Option.map_some, Option.some.injEq]
    split <;> rfl
  · rw [List.getElem?_eq_none (by simpa [assignAt_length] using hi), List.getElem?_eq_none (by simpa using hi)]

theorem projectLoop_eq_map (v : List Int) (vals : Vals) :
    projectLoop (whereEq v) v.length vals = v.map fun l => valAt vals (label? l) := by
  -- after the first m values have been written, item i holds the value of its label among those m
  have step : ∀ m, (List.range m).foldl (fun out k => assignAt out (whereEq v k) (vals[k]?).join)
      (List.replicate v.length none) = v.map fun l => valAt (vals.take m) (label? l) := by
    intro m
    induction m with
    | zero => simp [valAt, List.map_const']
    | succ m ih =>
      rw [List.range_succ, List.foldl_append, ih, List.foldl_cons, List.foldl_nil, assignAt_map]
      refine List.map_congr_left fun l _ => ?_
      unfold valAt label?
      by_cases h : l = (m : Int)
      · subst h
        rw [if_pos rfl, if_pos (by omega)]
        simp [List.getElem?_take]
      · by_cases h0 : -1 < l
        · have : l.toNat < m + 1 ↔ l.toNat < m := by omega
          simp only [h, h0, if_false, if_true, Option.bind_some, List.getElem?_take, this]
        · simp [h, h0]
  rw [projectLoop, step, List.take_length]

theorem projectLoop_length {v : List Int} {vals : Vals} :
    (projectLoop (whereEq v) v.length vals).length = v.length := by
  rw [projectLoop_eq_map, List.length_map]

theorem projectLoop_spec {v : List Int} {vals : Vals} {i : Nat} {l : Int} (hv : v[i]? = some l) :
    (projectLoop (whereEq v) v.length vals)[i]? = some (valAt vals (label? l)) := by
  rw [projectLoop_eq_map, List.getElem?_map, hv]; rfl

theorem projectLoop_lookup {v : List Int} {vals : Vals} {i : Nat} {r : Option Nat} (h : lookupLabel v i = .ok r) :
    (projectLoop (whereEq v) v.length vals)[i]? = some (valAt vals r) := by
  obtain ⟨l, h1, rfl⟩ := lookupLabel_ok.mp h
  exact projectLoop_spec h1

theorem projectLoop_none_of_ge (v : List Int) (vals : Vals) (i : Nat) (h : v.length ≤ i) :
    (projectLoop (whereEq v) v.length vals)[i]? = none := by
  rw [projectLoop_eq_map, List.getElem?_map, List.getElem?_eq_none h]; rfl

/-! ### establishing `WF` -/

theorem getElem?_eq_some_bang {v : List Int} {i : Nat} {a : Int} (h : v[i]? = some a) :
    i < v.length ∧ v[i]! = a := by
  obtain ⟨hi, he⟩ := List.getElem?_eq_some_iff.mp h
  exact ⟨hi, by rw [getElem!_pos v i hi]; exact he⟩

/-- `WF` from conditions that `decide` can evaluate on a concrete vector: bounded quantifiers, `cv[i]!` -/
theorem wf_of_bounded (cv : List Int) (K : Nat)
    (h1 : ∀ l ∈ cv, -1 ≤ l ∧ l < (K : Int))
    (h2 : ∀ k < K, (k : Int) ∈ cv)
    (h3 : ∀ i < cv.length, ∀ j < cv.length, i ≤ j → 0 ≤ cv[i]! → 0 ≤ cv[j]! → cv[i]! ≤ cv[j]!)
    (h4 : ∀ i < cv.length, ∀ d < cv.length, ∀ e < cv.length,
      (cv[i]! = cv[i + d + e]! ∧ 0 ≤ cv[i]! ∧ i + d + e < cv.length) → cv[i + d]! = cv[i]!) :
    WF cv K := by
  refine ⟨h1, h2, ?_, ?_⟩
  · intro i j a b hij ha hb h0a h0b
    obtain ⟨hi, rfl⟩ := getElem?_eq_some_bang ha
    obtain ⟨hj, rfl⟩ := getElem?_eq_some_bang hb
    exact h3 i hi j hj hij h0a h0b
  · intro i m j a him hmj ha hb h0
    obtain ⟨hi, hia⟩ := getElem?_eq_some_bang ha
    obtain ⟨hj, hja⟩ := getElem?_eq_some_bang hb
    have hm : m < cv.length := by omega
    have e1 : i + (m - i) = m := by omega
    have e2 : i + (m - i) + (j - m) = j := by omega
    have := h4 i hi (m - i) (by omega) (j - m) (by omega)
      ⟨by rw [e2, hia, hja], by rw [hia]; exact h0, by omega⟩
    rw [e1] at this
    rw [List.getElem?_eq_getElem hm, ← getElem!_pos cv m hm, this, hia]

theorem getElem?_block {A B : List Int} {n : Nat} {a : Int} (hA : a ∉ A) (hB : a ∉ B) (i : Nat) :
    (A ++ List.replicate n a ++ B)[i]? = some a ↔ A.length ≤ i ∧ i < A.length + n := by
  by_cases h1 : i < A.length
  · rw [List.append_assoc, List.getElem?_append_left h1]
    exact ⟨fun h => absurd (List.mem_of_getElem? h) hA, fun h => by omega⟩
  · by_cases h2 : i < A.length + n
    · rw [List.getElem?_append_left (by simp; omega), List.getElem?_append_right (by omega),
        List.getElem?_replicate, if_pos (by omega)]
      exact ⟨fun _ => by omega, fun _ => rfl⟩
    · rw [List.getElem?_append_right (by simp; omega)]
      exact ⟨fun h => absurd (List.mem_of_getElem? h) hB, fun h => by omega⟩

theorem wf_of_blocks {cv : List Int} {K : Nat} (hval : ∀ l ∈ cv, l = -1 ∨ (0 ≤ l ∧ l < (K : Int)))
    (hblock : ∀ k < K, ∃ (A B : List Int) (n : Nat), 0 < n ∧ cv = A ++ List.replicate n (k : Int) ++ B ∧
      (k : Int) ∉ A ∧ ∀ x ∈ B, x = -1 ∨ (k : Int) < x) : WF cv K := by
  have hnat : ∀ (i : Nat) (a : Int), cv[i]? = some a → 0 ≤ a →
      ∃ (A B : List Int) (n : Nat), cv = A ++ List.replicate n a ++ B ∧ a ∉ A ∧ ∀ x ∈ B, x = -1 ∨ a < x := by
    intro i a ha h0
    rcases hval a (List.mem_of_getElem? ha) with h | h
    · omega
    · obtain ⟨A, B, n, -, h1, h2, h3⟩ := hblock a.toNat (by omega)
      rw [Int.toNat_of_nonneg h0] at h1 h2 h3
      exact ⟨A, B, n, h1, h2, h3⟩
  have hB : ∀ {a : Int} {B : List Int}, (∀ x ∈ B, x = -1 ∨ a < x) → 0 ≤ a → a ∉ B :=
    fun h h0 hm => by have := h _ hm; omega
  refine ⟨fun l hl => by rcases hval l hl with h | h <;> omega, ?_, ?_, ?_⟩
  · intro k hk
    obtain ⟨A, B, n, hn, hp, -⟩ := hblock k hk
    rw [hp]
    simp [show n ≠ 0 by omega]
  · intro i j a b hij ha hb h0a h0b
    obtain ⟨A, B, n, hp, hA, hgt⟩ := hnat i a ha h0a
    rw [hp] at ha hb
    have hi := (getElem?_block hA (hB hgt h0a) i).mp ha
    by_cases hj : j < A.length + n
    · rw [(getElem?_block hA (hB hgt h0a) j).mpr ⟨by omega, hj⟩] at hb
      injection hb with hb; omega
    · rw [List.getElem?_append_right (by simp; omega)] at hb
      rcases hgt b (List.mem_of_getElem? hb) with h | h <;> omega
  · intro i m j a him hmj ha hb h0
    obtain ⟨A, B, n, hp, hA, hgt⟩ := hnat i a ha h0
    rw [hp] at ha hb ⊢
    have hi := (getElem?_block hA (hB hgt h0) i).mp ha
    have hj := (getElem?_block hA (hB hgt h0) j).mp hb
    exact (getElem?_block hA (hB hgt h0) m).mpr ⟨by omega, by omega⟩

/-! ### decomposition of the composite forward maps -/

/-- how the composite forward maps chain two lookups: an exception stays an exception, `None` stays `None`,
    an index is handed to the next lookup -/
def andThen {β : Type} (a : Except Err (Option Nat)) (f : Nat → Except Err (Option β)) : Except Err (Option β) :=
  match a with
  | .error e => .error e
  | .ok none => .ok none
  | .ok (some k) => f k

theorem andThen_eq_ok {β : Type} {a : Except Err (Option Nat)} {f : Nat → Except Err (Option β)} {r : Option β} :
    andThen a f = .ok r ↔ (a = .ok none ∧ r = none) ∨ ∃ k, a = .ok (some k) ∧ f k = .ok r := by
  cases a with
  | error e => simp [andThen]
  | ok o => cases o <;> simp [andThen, eq_comm]

theorem andThen_total {β : Type} {a : Except Err (Option Nat)} {f : Nat → Except Err (Option β)}
    (ha : ∃ r, a = .ok r) (hf : ∀ k, a = .ok (some k) → ∃ r, f k = .ok r) : ∃ r, andThen a f = .ok r := by
  obtain ⟨r, rfl⟩ := ha
  cases r with
  | none => exact ⟨none, rfl⟩
  | some k => exact hf k rfl

/-- `map_subset_to_chain` as the last stage of a composite map -/
def chainStage (ch : List Int) (j : Nat) : Except Err (Option Int) :=
  match mapSubsetToChain ch j with
  | .error e => .error e
  | .ok c => .ok (some c)

variable {ch sv cv : List Int}

theorem mapSubsetToChain_ok {j : Nat} {c : Int} :
    mapSubsetToChain ch j = .ok c ↔ ch[j]? = some c := by
  unfold mapSubsetToChain
  cases ch[j]? <;> simp

theorem chainStage_eq_ok {j : Nat} {r : Option Int} :
    chainStage ch j = .ok r ↔ ∃ c, ch[j]? = some c ∧ r = some c := by
  unfold chainStage mapSubsetToChain
  cases ch[j]? <;> simp [eq_comm]

theorem chainStage_total {j : Nat} (h : j < ch.length) : ∃ r, chainStage ch j = .ok r :=
  ⟨some ch[j], chainStage_eq_ok.mpr ⟨_, List.getElem?_eq_getElem h, rfl⟩⟩

/-- Projecting through a composite map: `out` is projected from `inner` along the first stage, and `g` turns the answer of
    the second stage into the entry of `inner` (`valAt vals` for subset values; `fun r => valAt vals (r.bind label?)` for
    chain values, whose last stage returns the raw chain entry). -/
theorem project_andThen {β : Type} {out inner : Vals} {i : Nat} {g : Option β → Option Rat} (hg : g none = none)
    {a : Except Err (Option Nat)} {f : Nat → Except Err (Option β)} {r : Option β}
    (hout : ∀ r', a = .ok r' → out[i]? = some (valAt inner r'))
    (hf : ∀ k, f k = .ok r → inner[k]? = some (g r)) (h : andThen a f = .ok r) : out[i]? = some (g r) := by
  rcases andThen_eq_ok.mp h with ⟨ha, rfl⟩ | ⟨k, ha, hk⟩
  · rw [hout none ha, hg]; rfl
  · rw [hout (some k) ha]; simp [valAt, hf k hk]

theorem chainStage_project {vals : Vals} {r : Option Int} (j : Nat) (h : chainStage ch j = .ok r) :
    (projectLoop (whereEq ch) ch.length vals)[j]? = some (valAt vals (r.bind label?)) := by
  obtain ⟨c, hc, rfl⟩ := chainStage_eq_ok.mp h
  exact projectLoop_spec hc

theorem mapSampleToSubset_eq {i : Nat} :
    mapSampleToSubset sv cv i = andThen (mapSampleToCycle cv i) (mapCycleToSubset sv) := rfl

theorem mapCycleToChain_eq {k : Nat} :
    mapCycleToChain ch sv k = andThen (mapCycleToSubset sv k) (chainStage ch) := rfl

theorem mapSampleToChain_eq {i : Nat} :
    mapSampleToChain ch sv cv i = andThen (mapSampleToSubset sv cv i) (chainStage ch) := rfl

theorem mapSampleToSubset_some {i j : Nat} :
    mapSampleToSubset sv cv i = .ok (some j) ↔
      ∃ k : Nat, cv[i]? = some (k : Int) ∧ sv[k]? = some (j : Int) := by
  simp [mapSampleToSubset_eq, andThen_eq_ok, mapSampleToCycle, mapCycleToSubset, lookupLabel_some]

theorem mapCycleToChain_some {k : Nat} {c : Int} :
    mapCycleToChain ch sv k = .ok (some c) ↔
      ∃ j : Nat, sv[k]? = some (j : Int) ∧ ch[j]? = some c := by
  simp [mapCycleToChain_eq, andThen_eq_ok, chainStage_eq_ok, mapCycleToSubset, lookupLabel_some]

theorem mapCycleToChain_none {k : Nat} :
    mapCycleToChain ch sv k = .ok none ↔ ∃ s, sv[k]? = some s ∧ s ≤ -1 := by
  simp [mapCycleToChain_eq, andThen_eq_ok, chainStage_eq_ok, mapCycleToSubset, lookupLabel_none]

theorem mapSampleToChain_some {i : Nat} {c : Int} :
    mapSampleToChain ch sv cv i = .ok (some c) ↔
      ∃ k j : Nat, cv[i]? = some (k : Int) ∧ sv[k]? = some (j : Int) ∧ ch[j]? = some c := by
  simp only [mapSampleToChain_eq, andThen_eq_ok, chainStage_eq_ok, mapSampleToSubset_some]
  simp only [reduceCtorEq, and_false, false_or, Option.some.injEq, exists_eq_right']
  exact ⟨fun ⟨j, ⟨k, h1, h2⟩, h3⟩ => ⟨k, j, h1, h2, h3⟩, fun ⟨k, j, h1, h2, h3⟩ => ⟨j, ⟨k, h1, h2⟩, h3⟩⟩

theorem mapSampleToChain_none {i : Nat} :
    mapSampleToChain ch sv cv i = .ok none ↔ mapSampleToSubset sv cv i = .ok none := by
  simp [mapSampleToChain_eq, andThen_eq_ok, chainStage_eq_ok]

/-! ### exactness of the composite back maps -/

theorem mem_samples_cycleOf_iff {valids : List Bool} {j i : Nat} (hj : j < valids.count true) :
    i ∈ mapCycleToSamples cv (cycleOf (subsetVector valids) j) ↔
      mapSampleToSubset (subsetVector valids) cv i = .ok (some j) := by
  simp [mapCycleToSamples, mem_whereEq, mapSampleToSubset_some, subset_lookup_iff, hj]

/-- exactness passes through the chain stage: the items of chain c are the items of its subset cycles, so a back map
    collected over `whereEq ch c` is exact when the back map `B` it collects is -/
theorem mem_flatMap_chain_iff {c : Nat} {B : Nat → List Nat} (a : Except Err (Option Nat)) {i : Nat}
    (hB : ∀ j ∈ whereEq ch c, (i ∈ B j ↔ a = .ok (some j))) :
    i ∈ (whereEq ch c).flatMap B ↔ andThen a (chainStage ch) = .ok (some (c : Int)) := by
  rw [List.mem_flatMap, andThen_eq_ok]
  simp only [reduceCtorEq, and_false, false_or, chainStage_eq_ok, Option.some.injEq, exists_eq_right', ← mem_whereEq]
  exact ⟨fun ⟨j, hj, hi⟩ => ⟨j, (hB j hj).mp hi, hj⟩, fun ⟨j, ha, hj⟩ => ⟨j, hj, (hB j hj).mpr ha⟩⟩

end Maps
