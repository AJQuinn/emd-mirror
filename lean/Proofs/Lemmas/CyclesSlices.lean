/- Lemmas about the code-shaped cycle detector (`Cycles.cvIdx` / `segLoop`): the boundary list
   is the list of cumulative run lengths, so the slices handed to the acceptance test are exactly the
   (non-empty) runs; mapping a series through a projection (the mask column) commutes with painting;
   per-sample comparison of two labellings of the same runs. -/
import Proofs.Lemmas.CyclesIdx

namespace Cycles
variable {α β : Type}

/-! ### the boundary list -/

theorem bnds_spec (p : Nat) (ls : List Nat) (h : ∀ l ∈ ls, 0 < l) :
    (bnds p ls).Pairwise (· < ·) ∧ ∀ b ∈ bnds p ls, p ≤ b ∧ b ≤ p + ls.sum := by
  induction ls generalizing p with
  | nil => simp [bnds]
  | cons l ls ih =>
    obtain ⟨h1, h2⟩ := ih (p + l) fun x hx => h x (List.mem_cons_of_mem _ hx)
    have hl := h l (by simp)
    simp only [bnds, List.pairwise_cons, List.mem_cons, List.sum_cons]
    refine ⟨⟨fun b hb => by have := h2 b hb; omega, h1⟩, ?_⟩
    rintro b (rfl | hb)
    · omega
    · have := h2 b hb; omega

theorem boundaries_spec (w : α → α → Bool) (xs : List α) (hx : xs ≠ []) :
    (0 :: wrapIdx w xs 0 ++ [xs.length]).Pairwise (· < ·) ∧
    ∀ b ∈ 0 :: wrapIdx w xs 0 ++ [xs.length], b ≤ xs.length := by
  have := bnds_spec 0 ((runsBy w xs).map List.length) fun l hl => by
    obtain ⟨r, hr, rfl⟩ := List.mem_map.mp hl
    exact List.length_pos_iff.mpr (runsBy_ne_nil r hr)
  rw [← boundaries_eq_bnds w xs hx, runsBy_length_sum] at this
  exact ⟨this.1, fun b hb => by have := this.2 b hb; omega⟩

/-! ### the slices handed to the acceptance test -/

/-- the arguments `phase[a:b]` (with their mask bits) the segment loop hands to the acceptance test, in order -/
def segSlices (xs : List α) : List Nat → List (List α)
  | a :: b :: t => (xs.drop a).take (b - a) :: segSlices xs (b :: t)
  | _ => []

theorem segSlices_bnds (pre : List α) (rs : List (List α)) :
    segSlices (pre ++ rs.flatten) (bnds pre.length (rs.map List.length)) = rs := by
  induction rs generalizing pre with
  | nil => simp [bnds, segSlices]
  | cons r rs ih =>
    have := ih (pre ++ r)
    simp only [List.append_assoc, List.length_append] at this
    rw [List.map_cons, bnds, bnds_eq_cons, segSlices, ← bnds_eq_cons, List.flatten_cons, this]
    simp

theorem segSlices_eq_runs (w : α → α → Bool) (xs : List α) (hx : xs ≠ []) :
    segSlices xs (0 :: wrapIdx w xs 0 ++ [xs.length]) = runsBy w xs := by
  have := segSlices_bnds [] (runsBy w xs)
  rwa [List.nil_append, runsBy_flatten, List.length_nil, ← boundaries_eq_bnds w xs hx] at this

/-! ### projection of the series (dropping the mask column) -/

theorem runsBy_map (w : β → β → Bool) (f : α → β) (xs : List α) :
    runsBy w (xs.map f) = (runsBy (fun a b => w (f a) (f b)) xs).map (List.map f) := by
  refine runsBy_induction _ (motive := fun xs rs => runsBy w (xs.map f) = rs.map (List.map f)) rfl (fun _ => rfl) ?_ ?_ xs
  · intro a b t r rs h ih
    rw [List.map_cons, List.map_cons] at ih ⊢
    rw [runsBy, ih, if_pos h]; rfl
  · intro a b t r rs h ih
    rw [List.map_cons, List.map_cons] at ih ⊢
    rw [runsBy, ih, if_neg (by simp [h])]; rfl

theorem paint_labelRuns_map (f : α → β) (acc : List α → Bool) (acc' : List β → Bool) (rs : List (List α))
    (h : ∀ r, acc' (r.map f) = acc r) (c : Nat) :
    paint (labelRuns acc' c (rs.map (List.map f))) = paint (labelRuns acc c rs) := by
  induction rs generalizing c with
  | nil => rfl
  | cons r t ih =>
    simp only [List.map_cons, labelRuns, h r]
    split <;> simp [paint_cons, ih]

theorem paint_cvSegs_map (w : β → β → Bool) (f : α → β) (acc : List α → Bool) (acc' : List β → Bool) (xs : List α)
    (h : ∀ r, acc' (r.map f) = acc r) :
    paint (cvSegs w acc' (xs.map f)) = paint (cvSegs (fun a b => w (f a) (f b)) acc xs) := by
  unfold cvSegs
  simp only [runsBy_map, List.length_map]
  split
  · simp [paint, List.flatMap_map]
  · exact paint_labelRuns_map f acc acc' _ h 0

/-- `get_cycle_vector` without a mask: the mask column disappears, the acceptance test is `is_good`
    alone (`return_good=True`) or nothing (`return_good=False`). -/
theorem getCycleVector_nomask (g : GoodCfg) (step : Rat) (good : Bool) (ph : List Rat) :
    getCycleVector g step good ph (List.replicate ph.length true)
      = paint (cvSegs (wrapAt step) (fun r => !good || isGood g r) ph) := by
  -- the series is `ph` with `true` attached to every sample: every run passes the mask test
  rw [getCycleVector, ← List.map_const', ← List.map_prod_left_eq_zip]
  exact paint_cvSegs_map (wrapP step) (fun a => (a, true)) _ (accept g good) ph fun r => by
    simp [accept, Function.comp_def]

/-- `get_cycle_vector(phase, return_good=False)` without a mask, the partition the container works on: every run is a cycle -/
theorem getCycleVector_all (g : GoodCfg) (step : Rat) (ph : List Rat) :
    getCycleVector g step false ph (List.replicate ph.length true)
      = paint (cvSegs (wrapAt step) (fun _ => true) ph) :=
  getCycleVector_nomask g step false ph

/-! ### two labellings of the same runs, sample by sample -/

/-- Sample p lies in the i-th run (its all-cycles label, counted from c, is c+i): it is labelled by the
    acceptance test `acc` exactly when `acc` accepts the i-th run. -/
theorem paint_labelRuns_sample (acc : List α → Bool) (rs : List (List α)) : ∀ (c d p i : Nat),
    (paint (labelRuns (fun _ => true) c rs))[p]? = some ((c + i : Nat) : Int) →
      ((rs.map acc)[i]? = some true ↔ ∃ l, (paint (labelRuns acc d rs))[p]? = some l ∧ 0 ≤ l) := by
  induction rs with
  | nil => intro c d p i h; simp [labelRuns, paint] at h
  | cons r t ih =>
    intro c d p i h
    simp only [labelRuns, ite_true, paint_cons, labelInt] at h
    by_cases hp : p < r.length
    · rw [List.getElem?_append_left (by simpa using hp)] at h
      simp only [List.getElem?_replicate, hp, ite_true, Option.some.injEq] at h
      have hi : i = 0 := by omega
      subst hi
      simp only [List.map_cons, List.getElem?_cons_zero, Option.some.injEq, labelRuns]
      cases ha : acc r
      · simp only [Bool.false_eq_true, ite_false, paint_cons, labelInt, false_iff, not_exists, not_and]
        intro l hl
        rw [List.getElem?_append_left (by simpa using hp)] at hl
        simp [hp] at hl
        omega
      · simp only [ite_true, paint_cons, labelInt, true_iff]
        refine ⟨(d : Int), ?_, by omega⟩
        rw [List.getElem?_append_left (by simpa using hp)]
        simp [hp]
    · rw [List.getElem?_append_right (by simpa using hp)] at h
      simp only [List.length_replicate] at h
      have hge := paint_labelRuns_true_ge t (c + 1) _ (List.mem_of_getElem? h)
      obtain ⟨i', rfl⟩ : ∃ i', i = i' + 1 := ⟨i - 1, by omega⟩
      have h' : (paint (labelRuns (fun _ => true) (c + 1) t))[p - r.length]? = some ((c + 1 + i' : Nat) : Int) := by
        rw [h]; congr 2; omega
      simp only [List.map_cons, List.getElem?_cons_succ, labelRuns]
      split
      · rw [ih (c + 1) (d + 1) _ i' h', paint_cons, List.getElem?_append_right (by simpa using hp)]
        simp
      · rw [ih (c + 1) d _ i' h', paint_cons, List.getElem?_append_right (by simpa using hp)]
        simp

end Cycles
