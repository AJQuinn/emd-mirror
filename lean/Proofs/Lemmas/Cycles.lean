/- Lemmas about the run-shaped model of EmdModel.Cycles: `runsBy` through an induction principle (with the predicates
   `NoWrap`, `WrapBetween` in which C12 describes the runs), `labelRuns` and `cvSegs` (the labels in order are `0..K-1`),
   `paint` (every label is one block of the label vector), and `is_good`. -/
import EmdModel.Cycles

namespace Cycles
variable {α : Type}

/-! ### runs -/

/-- no wrap between neighbours -/
def NoWrap (w : α → α → Bool) : List α → Prop
  | a :: b :: t => w a b = false ∧ NoWrap w (b :: t)
  | _ => True

/-- every pair of consecutive runs is separated by a wrap (last of the first, head of the second) -/
def WrapBetween (w : α → α → Bool) : List (List α) → Prop
  | r1 :: r2 :: t => (∃ a b, r1.getLast? = some a ∧ r2.head? = some b ∧ w a b = true) ∧ WrapBetween w (r2 :: t)
  | _ => True

theorem runsBy_head (w : α → α → Bool) (a : α) (t : List α) :
    ∃ r rs, runsBy w (a :: t) = (a :: r) :: rs := by
  cases t with
  | nil => exact ⟨[], [], rfl⟩
  | cons b t =>
    unfold runsBy
    split
    · exact ⟨[], _, rfl⟩
    · split
      · exact ⟨_, _, rfl⟩
      · exact ⟨[], [], rfl⟩

/-- Induction along `runsBy`: the first run of a non-empty series starts with its first sample, and the sample before it
    either closes a run of its own (a wrap) or joins that first run. -/
theorem runsBy_induction (w : α → α → Bool) {motive : List α → List (List α) → Prop}
    (nil : motive [] []) (single : ∀ a, motive [a] [[a]])
    (wrap : ∀ a b t r rs, w a b = true → motive (b :: t) ((b :: r) :: rs) → motive (a :: b :: t) ([a] :: (b :: r) :: rs))
    (join : ∀ a b t r rs, w a b = false → motive (b :: t) ((b :: r) :: rs) → motive (a :: b :: t) ((a :: b :: r) :: rs))
    (xs : List α) : motive xs (runsBy w xs) := by
  induction xs with
  | nil => exact nil
  | cons a t ih =>
    cases t with
    | nil => exact single a
    | cons b t =>
      obtain ⟨r, rs, h⟩ := runsBy_head w b t
      rw [h] at ih
      rw [runsBy, h]
      cases hw : w a b
      · exact join a b t r rs hw ih
      · exact wrap a b t r rs hw ih

variable {w : α → α → Bool} {acc : List α → Bool} {xs : List α}

theorem runsBy_flatten : (runsBy w xs).flatten = xs :=
  runsBy_induction w (motive := fun xs rs => rs.flatten = xs) rfl (fun _ => rfl) (by simp) (by simp) xs

theorem runsBy_ne_nil : ∀ r ∈ runsBy w xs, r ≠ [] :=
  runsBy_induction w (motive := fun _ rs => ∀ r ∈ rs, r ≠ []) (by simp) (by simp) (by simp) (by simp) xs

theorem runsBy_noWrap : ∀ r ∈ runsBy w xs, NoWrap w r := by
  refine runsBy_induction w (motive := fun _ rs => ∀ r ∈ rs, NoWrap w r) ?_ ?_ ?_ ?_ xs
  · exact fun _ h => nomatch h
  · exact fun a r hr => List.mem_singleton.mp hr ▸ trivial
  · intro a b t r rs _ ih
    exact List.forall_mem_cons.mpr ⟨trivial, ih⟩
  · intro a b t r rs h ih
    obtain ⟨ih1, ih2⟩ := List.forall_mem_cons.mp ih
    exact List.forall_mem_cons.mpr ⟨⟨h, ih1⟩, ih2⟩

theorem runsBy_wrapBetween : WrapBetween w (runsBy w xs) := by
  refine runsBy_induction w (motive := fun _ rs => WrapBetween w rs) trivial (fun _ => trivial) ?_ ?_ xs
  · intro a b t r rs h ih
    exact ⟨⟨a, b, rfl, rfl, h⟩, ih⟩
  · intro a b t r rs _ ih
    cases rs with
    | nil => trivial
    | cons r2 rs2 =>
      obtain ⟨⟨x, y, hx, hy, hxy⟩, ih2⟩ := ih
      exact ⟨⟨x, y, by simpa [List.getLast?_cons_cons] using hx, hy, hxy⟩, ih2⟩

/-! ### sequential labelling -/

theorem labelRuns_runs (acc : List α → Bool) (c : Nat) (rs : List (List α)) :
    (labelRuns acc c rs).map (·.1) = rs := by
  induction rs generalizing c with
  | nil => simp [labelRuns]
  | cons r rs ih => unfold labelRuns; split <;> simp [ih]

theorem cvSegs_runs :
    (cvSegs w acc xs).map (·.1) = runsBy w xs := by
  unfold cvSegs
  simp only []
  split
  · simp [List.map_map, Function.comp_def]
  · exact labelRuns_runs acc 0 _

theorem mem_runsBy_of_mem_cvSegs {s : List α × Option Nat}
    (hs : s ∈ cvSegs w acc xs) : s.1 ∈ runsBy w xs :=
  cvSegs_runs ▸ List.mem_map_of_mem hs

theorem labelRuns_congr {acc acc' : List α → Bool} {rs : List (List α)} (h : ∀ r ∈ rs, acc r = acc' r) (c : Nat) :
    labelRuns acc c rs = labelRuns acc' c rs := by
  induction rs generalizing c with
  | nil => rfl
  | cons r t ih =>
    have ht := fun c => ih (fun x hx => h x (List.mem_cons_of_mem _ hx)) c
    simp only [labelRuns, h r (by simp), ht]

theorem cvSegs_congr {acc acc' : List α → Bool} (h : ∀ r ∈ runsBy w xs, acc r = acc' r) :
    cvSegs w acc xs = cvSegs w acc' xs := by
  simp only [cvSegs, labelRuns_congr h]

theorem labelRuns_labels (c : Nat) (rs : List (List α)) :
    (labelRuns acc c rs).filterMap (·.2) =
      List.range' c ((labelRuns acc c rs).filterMap (·.2)).length := by
  induction rs generalizing c with
  | nil => simp [labelRuns]
  | cons r rs ih =>
    unfold labelRuns
    split
    · simp only [List.filterMap_cons, List.length_cons, List.range'_succ]
      rw [← ih (c + 1)]
    · simp only [List.filterMap_cons]
      exact ih c

theorem cvSegs_of_wrap (h : 2 ≤ (runsBy w xs).length) :
    cvSegs w acc xs = labelRuns acc 0 (runsBy w xs) := by
  simp only [cvSegs, if_neg (show ¬ (runsBy w xs).length ≤ 1 by omega)]

theorem cvSegs_of_no_wrap (h : (runsBy w xs).length ≤ 1) :
    cvSegs w acc xs = (runsBy w xs).map fun r => (r, none) := by
  simp only [cvSegs, if_pos h]

theorem nCycles_of_no_wrap (h : (runsBy w xs).length ≤ 1) :
    nCycles (cvSegs w acc xs) = 0 := by
  rw [nCycles, cvSegs_of_no_wrap h, List.filterMap_map]
  exact congrArg List.length (List.filterMap_eq_nil_iff.mpr fun _ _ => rfl)

theorem cvSegs_labels :
    (cvSegs w acc xs).filterMap (·.2) = List.range (nCycles (cvSegs w acc xs)) := by
  rcases Nat.lt_or_ge 1 (runsBy w xs).length with h | h
  · rw [nCycles, cvSegs_of_wrap h, labelRuns_labels, List.length_range', List.range_eq_range']
  · have h0 := nCycles_of_no_wrap (acc := acc) h
    rw [h0, List.length_eq_zero_iff.mp h0]; rfl

theorem labelRuns_isSome (c : Nat) (rs : List (List α)) :
    (labelRuns acc c rs).map (·.2.isSome) = rs.map acc := by
  induction rs generalizing c with
  | nil => rfl
  | cons r rs ih => unfold labelRuns; split <;> simp [*]

theorem labelRuns_label_iff (c : Nat) (rs : List (List α)) :
    ∀ s ∈ labelRuns acc c rs, (s.2.isSome ↔ acc s.1 = true) := by
  have h := labelRuns_isSome (acc := acc) c rs
  conv at h => rhs; rw [← labelRuns_runs acc c rs, List.map_map]
  intro s hs
  rw [List.map_inj_left.mp h s hs]; rfl

/-! ### painting -/

theorem paint_nil : paint ([] : List (List α × Option Nat)) = [] := rfl

theorem paint_cons (s : List α × Option Nat) (t : List (List α × Option Nat)) :
    paint (s :: t) = List.replicate s.1.length (labelInt s.2) ++ paint t := by
  simp [paint]

theorem paint_append (a b : List (List α × Option Nat)) : paint (a ++ b) = paint a ++ paint b := by
  simp [paint]

theorem paint_length (segs : List (List α × Option Nat)) :
    (paint segs).length = ((segs.map (·.1)).map List.length).sum := by
  induction segs with
  | nil => simp [paint]
  | cons s t ih => simp [paint_cons, ih]

theorem paint_cvSegs_length :
    (paint (cvSegs w acc xs)).length = xs.length := by
  rw [paint_length, cvSegs_runs, ← List.length_flatten, runsBy_flatten]

theorem mem_paint {segs : List (List α × Option Nat)} {l : Int} (h : l ∈ paint segs) :
    ∃ s ∈ segs, (s.2 = none ∧ l = -1) ∨ ∃ k : Nat, s.2 = some k ∧ l = k := by
  simp only [paint, List.mem_flatMap, List.mem_replicate] at h
  obtain ⟨s, hs, -, rfl⟩ := h
  refine ⟨s, hs, ?_⟩
  cases s.2 with
  | none => exact .inl ⟨rfl, rfl⟩
  | some k => exact .inr ⟨k, rfl, rfl⟩

theorem labelRuns_ge (c : Nat) (rs : List (List α)) :
    ∀ s ∈ labelRuns acc c rs, ∀ k, s.2 = some k → c ≤ k := by
  intro s hs k hk
  have : k ∈ (labelRuns acc c rs).filterMap (·.2) := List.mem_filterMap.mpr ⟨s, hs, hk⟩
  rw [labelRuns_labels] at this
  exact (List.mem_range'_1.mp this).1

theorem paint_labelRuns_true_ge (rs : List (List α)) (c : Nat) :
    ∀ l ∈ paint (labelRuns (fun _ => true) c rs), (c : Int) ≤ l := by
  intro l hl
  obtain ⟨s, hs, ⟨h2, -⟩ | ⟨k, h2, rfl⟩⟩ := mem_paint hl
  · have := (labelRuns_label_iff c rs s hs).mpr rfl; simp [h2] at this
  · have := labelRuns_ge c rs s hs k h2; omega

theorem paint_all_none (rs : List (List α)) :
    paint (rs.map fun r => (r, (none : Option Nat))) = List.replicate (rs.map List.length).sum (-1) := by
  induction rs with
  | nil => simp [paint]
  | cons r rs ih => simp [paint_cons, ih, labelInt]

theorem paint_no_wrap (hw : (runsBy w xs).length ≤ 1) : ∀ l ∈ paint (cvSegs w acc xs), l = -1 := by
  rw [cvSegs_of_no_wrap hw, paint_all_none]
  exact fun l hl => (List.mem_replicate.mp hl).2

theorem paint_values :
    ∀ l ∈ paint (cvSegs w acc xs), l = -1 ∨ (0 ≤ l ∧ l < (nCycles (cvSegs w acc xs) : Int)) := by
  intro l hl
  obtain ⟨s, hs, ⟨-, rfl⟩ | ⟨k, h, rfl⟩⟩ := mem_paint hl
  · exact .inl rfl
  · have hk : k ∈ (cvSegs w acc xs).filterMap (·.2) := List.mem_filterMap.mpr ⟨s, hs, h⟩
    rw [cvSegs_labels] at hk
    have := List.mem_range.mp hk
    exact .inr (by omega)

/-! ### every label is one block -/

theorem range_split {a b : List Nat} {k n : Nat} (h : a ++ k :: b = List.range n) :
    k = a.length ∧ (∀ x ∈ a, x < k) ∧ ∀ x ∈ b, k < x := by
  have hp : (a ++ k :: b).Pairwise (· < ·) := h ▸ List.pairwise_lt_range
  obtain ⟨-, hkb, hak⟩ := List.pairwise_append.mp hp
  refine ⟨?_, fun x hx => hak x hx k (by simp), (List.pairwise_cons.mp hkb).1⟩
  have h1 : (a ++ k :: b)[a.length]? = some k := by simp
  have hlt : a.length < n := by have := congrArg List.length h; simp at this; omega
  rw [h, List.getElem?_range hlt] at h1
  exact (Option.some.inj h1).symm

theorem labels_split {segs : List (List α × Option Nat)} {K k : Nat}
    (hl : segs.filterMap (·.2) = List.range K) (hk : k < K) :
    ∃ pre run post, segs = pre ++ (run, some k) :: post ∧
      (∀ s ∈ pre, ∀ j, s.2 = some j → j < k) ∧ (∀ s ∈ post, ∀ j, s.2 = some j → k < j) := by
  obtain ⟨⟨run, o⟩, hs, hsk⟩ := List.mem_filterMap.mp (hl ▸ List.mem_range.mpr hk)
  obtain ⟨pre, post, rfl⟩ := List.append_of_mem hs
  simp only at hsk; subst hsk
  rw [List.filterMap_append, List.filterMap_cons] at hl
  obtain ⟨-, h1, h2⟩ := range_split hl
  exact ⟨pre, run, post, rfl, fun s hs j hj => h1 j (List.mem_filterMap.mpr ⟨s, hs, hj⟩),
    fun s hs j hj => h2 j (List.mem_filterMap.mpr ⟨s, hs, hj⟩)⟩

theorem cvSegs_label_block (k : Nat)
    (hk : k < nCycles (cvSegs w acc xs)) :
    ∃ pre run post, cvSegs w acc xs = pre ++ (run, some k) :: post ∧ run ≠ [] ∧
      paint (cvSegs w acc xs) = paint pre ++ List.replicate run.length (k : Int) ++ paint post ∧
      (k : Int) ∉ paint pre ∧ ∀ x ∈ paint post, x = -1 ∨ (k : Int) < x := by
  obtain ⟨pre, run, post, hseg, h3, h4⟩ := labels_split cvSegs_labels hk
  have hrun : run ∈ runsBy w xs := mem_runsBy_of_mem_cvSegs (s := (run, some k)) (by rw [hseg]; simp)
  refine ⟨pre, run, post, hseg, runsBy_ne_nil run hrun, ?_, fun hx => ?_, fun x hx => ?_⟩
  · rw [hseg, paint_append, paint_cons]
    simp [labelInt, List.append_assoc]
  · obtain ⟨s, hs, ⟨-, h⟩ | ⟨j, h2, h⟩⟩ := mem_paint hx
    · omega
    · have := h3 s hs j h2
      omega
  · obtain ⟨s, hs, ⟨-, rfl⟩ | ⟨j, h2, rfl⟩⟩ := mem_paint hx
    · exact .inl rfl
    · have := h4 s hs j h2
      exact .inr (by omega)

/-! ### `is_good` -/

theorem strictInc_iff (l : List Rat) : strictInc l = true ↔ l.Pairwise (· < ·) := by
  induction l with
  | nil => simp [strictInc]
  | cons a t ih =>
    cases t with
    | nil => simp [strictInc]
    | cons b t =>
      simp only [strictInc, Bool.and_eq_true, decide_eq_true_eq, ih]
      refine ⟨fun ⟨hab, hp⟩ => List.pairwise_cons.mpr ⟨fun x hx => ?_, hp⟩, fun hp => ?_⟩
      · rcases List.mem_cons.mp hx with rfl | hx
        · exact hab
        · exact Std.lt_trans hab ((List.pairwise_cons.mp hp).1 x hx)
      · exact ⟨(List.pairwise_cons.mp hp).1 b (by simp), (List.pairwise_cons.mp hp).2⟩

theorem isGoodChecks_isSome {g : GoodCfg} {ph : List Rat} (h : ph ≠ []) : (isGoodChecks g ph).isSome = true := by
  cases ph with
  | nil => exact absurd rfl h
  | cons a t =>
    unfold isGoodChecks
    have : (a :: t).getLast? = some ((a :: t).getLast (by simp)) := List.getLast?_eq_some_getLast (by simp)
    simp [this]

theorem containerIsGood_eq (g : GoodCfg) (step : Rat) (ph : List Rat) (hw : 2 ≤ (runsBy (wrapAt step) ph).length) :
    containerIsGood g step ph = (runsBy (wrapAt step) ph).map (isGood g) := by
  unfold containerIsGood
  simp only [cvSegs_of_wrap hw]
  rw [List.filter_eq_self.mpr fun s hs => (labelRuns_label_iff _ _ s hs).mpr rfl]
  conv => rhs; rw [← labelRuns_runs (fun _ => true) 0 (runsBy (wrapAt step) ph), List.map_map]
  rfl

end Cycles
