/-
  From the stage-call records of the option model to the rule the Sift model's `get_next_imf` evaluates
  (`Options.imfOptsOf`, `Options.stopRuleOf`), and `functools.partial` keyword merging (`Options.mergeKw`).
-/
import Proofs.Lemmas.OptionsRoutes

namespace Options
open Config Config.Assoc

theorem arg_congr {a b : Assoc} (p : String) (h : a.lookup p.toList = b.lookup p.toList) : arg a p = arg b p := by
  simp only [arg, h]

theorem imfOptsOf_congr (a b : Assoc) (h : ∀ p ∈ gniOwn.keys, a.lookup p = b.lookup p) :
    stopRuleOf a = stopRuleOf b ∧ imfOptsOf a = imfOptsOf b := by
  obtain ⟨d1, d2, d3, d4, d5, d6⟩ := gniOwn_defaults
  have e1 := arg_congr "stop_method" (h _ (mem_keys_of_lookup d1))
  have e2 := arg_congr "sd_thresh" (h _ (mem_keys_of_lookup d2))
  have e3 := arg_congr "rilling_thresh" (h _ (mem_keys_of_lookup d3))
  have e4 := arg_congr "env_step_size" (h _ (mem_keys_of_lookup d4))
  have e5 := arg_congr "max_iters" (h _ (mem_keys_of_lookup d5))
  have e6 := arg_congr "energy_thresh" (h _ (mem_keys_of_lookup d6))
  have hs : stopRuleOf a = stopRuleOf b := by
    unfold stopRuleOf
    rw [e1, e2, e3]
  exact ⟨hs, by unfold imfOptsOf; rw [hs, e4, e5, e6]⟩

theorem obeys_gni_eq_resolve {imf env ext : Assoc} {cs : List StageCall} (h : Obeys imf env ext cs) (c : StageCall)
    (hc : c ∈ cs) (hs : c.stage = .gni) :
    ∀ p ∈ gniOwn.keys, c.args.lookup p = (resolve gniOwn imf).lookup p := by
  intro p hp
  obtain ⟨d, hd⟩ := exists_lookup_of_mem_keys hp
  obtain ⟨chains, rfl, hch⟩ := h
  obtain ⟨ch, hm, hcm⟩ := List.mem_flatten.mp hc
  obtain ⟨a, aU, gU, aL, gL, rfl, g1, _⟩ := (hch ch hm).shape
  simp only [List.mem_cons, List.not_mem_nil, or_false] at hcm
  rcases hcm with rfl | rfl | rfl | rfl | rfl
  · rw [g1 p d hd, lookup_resolve, hd]; rfl
  all_goals cases hs

theorem mergeKw_eq_assignA : ∀ (frozen call : Assoc), mergeKw frozen call = assignA frozen call
  | _, .nil => rfl
  | frozen, .cons k v r => by simp only [mergeKw, assignA]; exact mergeKw_eq_assignA _ r

theorem lookup_mergeKw (frozen call : Assoc) (hn : NodupKeys call) (p : Key) :
    (mergeKw frozen call).lookup p = ((call.lookup p).orElse fun _ => frozen.lookup p) := by
  rw [mergeKw_eq_assignA, lookup_assignA call frozen p hn]

/-- the three option values of `partial(f, **frozen)(x, imf_opts=…, envelope_opts=…, extrema_opts=…)` -/
theorem kwArg_mergeKw_opts (frozen : Assoc) (imf env ext : Option Assoc) :
    kwArg (mergeKw frozen (kwargsDirect ⟨.nil, imf, env, ext⟩)) "imf_opts" =
      (imf.map .dict).getD (kwArg frozen "imf_opts") ∧
    kwArg (mergeKw frozen (kwargsDirect ⟨.nil, imf, env, ext⟩)) "envelope_opts" =
      (env.map .dict).getD (kwArg frozen "envelope_opts") ∧
    kwArg (mergeKw frozen (kwargsDirect ⟨.nil, imf, env, ext⟩)) "extrema_opts" =
      (ext.map .dict).getD (kwArg frozen "extrema_opts") := by
  obtain ⟨n12, n13, n23⟩ := optKeys_ne
  have hn : NodupKeys (kwargsDirect ⟨.nil, imf, env, ext⟩) := by
    rw [NodupKeys, kwargsDirect, Assoc.append]
    exact (keys_opt3 "imf_opts" "envelope_opts" "extrema_opts" imf env ext).1.nodup optKeys_nodup
  simp only [kwArg, lookup_mergeKw _ _ hn, lookup_kwargsDirect, Assoc.lookup, Option.orElse_none, if_true, if_neg n12,
    if_neg n13, if_neg n23]
  cases imf <;> cases env <;> cases ext <;> exact ⟨rfl, rfl, rfl⟩

end Options
