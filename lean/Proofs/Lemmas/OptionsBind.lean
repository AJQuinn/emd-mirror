/-
  Python argument binding in the option model (`resolve`, `call`, `arg`, `zipPos`, `noMissing` of `EmdModel.Options`):
  when a call binds and what the bound arguments hold.  All statements are about arbitrary signatures and keywords.
-/
import Proofs.Lemmas.Config
import EmdModel.Options

namespace Options
open Config Config.Assoc

theorem noDup_iff : ∀ xs : List Key, noDup xs = true ↔ xs.Nodup
  | [] => by simp [noDup]
  | x :: xs => by simp [noDup, noDup_iff xs]

theorem noDup_append_right {xs ys : List Key} : noDup (xs ++ ys) = true → noDup ys = true := by
  simp only [noDup_iff]
  exact fun h => (List.nodup_append.1 h).2.1

theorem contains_of_mem_keys : ∀ (a : Assoc) (q : Key), q ∈ a.keys → a.contains q = true :=
  fun a q h => (contains_iff a q).2 h

/-! ### `resolve` -/

theorem lookup_resolve (p : Key) (kw : Assoc) : ∀ sig : Assoc,
    (resolve sig kw).lookup p = (sig.lookup p).map (fun d => (kw.lookup p).getD d)
  | .nil => by simp [resolve, Assoc.lookup]
  | .cons q d r => by
    by_cases h : q = p
    · subst h
      simp only [resolve, Assoc.lookup, if_true, Option.map_some]
      cases kw.lookup q <;> rfl
    · simp [resolve, Assoc.lookup, h, lookup_resolve p kw r]

theorem keys_resolve (kw : Assoc) : ∀ sig : Assoc, (resolve sig kw).keys = sig.keys
  | .nil => rfl
  | .cons q d r => by simp [resolve, Assoc.keys, keys_resolve kw r]

theorem resolve_congr (kw kw' : Assoc) : ∀ sig : Assoc, (∀ p ∈ sig.keys, kw.lookup p = kw'.lookup p) →
    resolve sig kw = resolve sig kw'
  | .nil, _ => rfl
  | .cons q d r, h => by
    have h1 := h q (by simp [Assoc.keys])
    have h2 := resolve_congr kw kw' r (fun p hp => h p (by simp [Assoc.keys, hp]))
    simp [resolve, h1, h2]

theorem resolve_nil : ∀ own : Assoc, resolve own .nil = own
  | .nil => rfl
  | .cons p d r => by simp [resolve, Assoc.lookup, resolve_nil r]

theorem resolve_resolve (kw : Assoc) (full : Assoc) : ∀ sig : Assoc,
    (∀ p d, sig.lookup p = some d → full.lookup p = some d) → sig.keys.Nodup →
    resolve sig (resolve full kw) = resolve sig kw
  | .nil, _, _ => rfl
  | .cons q d r, h, hn => by
    obtain ⟨hq, hr⟩ := List.nodup_cons.1 (by simpa [Assoc.keys] using hn)
    have hfull : full.lookup q = some d := h q d (lookup_cons_self _ _ _)
    have ih := resolve_resolve kw full r (fun p d' hp => by
      apply h p d'
      have : q ≠ p := fun e => hq (e ▸ mem_keys_of_lookup hp)
      rw [lookup_cons_ne this, hp]) hr
    simp only [resolve, ih, lookup_resolve, hfull, Option.map_some]
    cases kw.lookup q <;> rfl

/-- `resolve own lit = own` says that `lit` only repeats defaults of `own` -/
theorem getD_of_resolve_eq {own lit : Assoc} (h : resolve own lit = own) {p : Key} {d : Tree}
    (hp : own.lookup p = some d) : (lit.lookup p).getD d = d := by
  have := lookup_resolve p lit own
  rw [h, hp] at this
  simpa using this.symm

theorem arg_resolve {sig : Assoc} {name : String} {d : Tree} (h : sig.lookup name.toList = some d) (kw : Assoc) :
    arg (resolve sig kw) name = (kw.lookup name.toList).getD d := by
  simp [arg, lookup_resolve, h]

theorem lookup_resolve_of_kw {sig kw : Assoc} {p : Key} {v : Tree} (hp : p ∈ sig.keys) (hk : kw.lookup p = some v) :
    (resolve sig kw).lookup p = some v := by
  obtain ⟨d, hd⟩ := exists_lookup_of_mem_keys hp
  rw [lookup_resolve, hd, hk]; rfl

theorem arg_of_lookup {a : Assoc} {name : String} {v : Tree} (h : a.lookup name.toList = some v) : arg a name = v := by
  rw [arg, h]; rfl

/-! ### `call` -/

theorem noMissing_of : ∀ {sig all : Assoc}, sig.keys.Nodup →
    (∀ p ∈ sig.keys, p ∈ all.keys ∨ (sig.lookup p).all (fun d => !isRequired d) = true) → noMissing sig all = true
  | .nil, _, _, _ => rfl
  | .cons p d r, all, hn, h => by
    obtain ⟨hp, hr⟩ := List.nodup_cons.1 (by simpa [keys] using hn)
    have h1 : (!isRequired d || all.contains p) = true := by
      rcases h p (by simp [keys]) with h | h
      · simp [(contains_iff all p).2 h]
      · simp only [lookup_cons_self, Option.all_some] at h; simp [h]
    have h2 := noMissing_of (all := all) hr fun q hq => by
      have hne : p ≠ q := fun e => hp (e ▸ hq)
      simpa [lookup_cons_ne hne] using h q (by simp [keys, hq])
    simp only [noMissing, h1, h2, Bool.and_self]

theorem validCall_iff (sig all : Assoc) :
    validCall sig all = true ↔ (∀ q ∈ all.keys, q ∈ sig.keys) ∧ all.keys.Nodup ∧ noMissing sig all = true := by
  simp only [validCall, Bool.and_eq_true, List.all_eq_true, contains_iff, noDup_iff, and_assoc]

theorem callWith_eq_ok {sig all a : Assoc} :
    callWith sig all = .ok a ↔ validCall sig all = true ∧ a = resolve sig all := by
  unfold callWith
  split <;> simp [*, eq_comm]

theorem zipPos_nil (sig : Assoc) : zipPos sig [] = some .nil := by cases sig <;> rfl

/-- `f(**kw)` -/
theorem call_nil_eq_ok {sig kw a : Assoc} :
    call sig [] kw = .ok a ↔ validCall sig kw = true ∧ a = resolve sig kw := by
  simp only [call, zipPos_nil, Assoc.append, callWith_eq_ok]

/-- `f(*pos, **kw)` -/
theorem call_eq_ok {sig : Assoc} {pos : List Tree} {kw a : Assoc} :
    call sig pos kw = .ok a ↔
      ∃ bnd, zipPos sig pos = some bnd ∧ validCall sig (bnd.append kw) = true ∧ a = resolve sig (bnd.append kw) := by
  unfold call
  cases zipPos sig pos <;> simp [callWith_eq_ok]

theorem zipPos_keys : ∀ {vals : List Tree} {sig bnd : Assoc}, zipPos sig vals = some bnd →
    bnd.keys = sig.keys.take vals.length
  | [], sig, bnd, h => by cases (zipPos_nil sig).symm.trans h; rfl
  | _ :: _, .nil, _, h => by simp [zipPos] at h
  | v :: vs, .cons p d r, bnd, h => by
    simp only [zipPos, Option.map_eq_some_iff] at h
    obtain ⟨b', hb, rfl⟩ := h
    simp [keys, zipPos_keys hb]

theorem zipPos_eq_some : ∀ {vals : List Tree} {sig : Assoc}, vals.length ≤ sig.keys.length → ∃ bnd, zipPos sig vals = some bnd
  | [], sig, _ => ⟨_, zipPos_nil sig⟩
  | _ :: _, .nil, h => by simp [keys] at h
  | v :: vs, .cons p d r, h => by
    obtain ⟨b, hb⟩ := zipPos_eq_some (vals := vs) (sig := r) (by simpa [keys] using h)
    exact ⟨.cons p v b, by simp [zipPos, hb]⟩

end Options
