/- Refinement: the code-shaped index model `cvIdx` equals the run-shaped model `paint ∘ cvSegs`. -/
import Proofs.Lemmas.Cycles

namespace Cycles
variable {α : Type}

/-- boundary list generated by consecutive run lengths, starting at offset `p` -/
def bnds : Nat → List Nat → List Nat
  | p, [] => [p]
  | p, l :: ls => p :: bnds (p + l) ls

theorem bnds_eq_cons (p : Nat) (ls : List Nat) : bnds p ls = p :: (bnds p ls).tail := by
  cases ls <;> simp [bnds]

theorem bnds_length (p : Nat) (ls : List Nat) : (bnds p ls).length = ls.length + 1 := by
  induction ls generalizing p with
  | nil => rfl
  | cons l ls ih => simp [bnds, ih]

theorem runsBy_length_sum (w : α → α → Bool) (xs : List α) :
    ((runsBy w xs).map List.length).sum = xs.length := by
  have := congrArg List.length (runsBy_flatten (w := w) (xs := xs))
  simpa [List.length_flatten] using this

theorem wrapIdx_bnds (w : α → α → Bool) (xs : List α) (i : Nat) (h : xs ≠ []) :
    i :: wrapIdx w xs i ++ [i + xs.length] = bnds i ((runsBy w xs).map List.length) := by
  have e : ∀ (i : Nat) (x : α) (l : List α), i + (x :: l).length = i + 1 + l.length := fun _ _ _ => by
    rw [List.length_cons]; omega
  refine runsBy_induction w (motive := fun xs rs => ∀ i, xs ≠ [] →
    i :: wrapIdx w xs i ++ [i + xs.length] = bnds i (rs.map List.length)) ?_ ?_ ?_ ?_ xs i h
  · exact fun _ h => absurd rfl h
  · intro a i _; rfl
  · intro a b t r rs hw ih i _
    rw [wrapIdx, if_pos hw, List.map_cons, bnds, show i + [a].length = i + 1 from rfl,
      ← ih (i + 1) (List.cons_ne_nil _ _), e i a]
    rfl
  · intro a b t r rs hw ih i _
    have := ih (i + 1) (List.cons_ne_nil _ _)
    rw [List.map_cons, bnds, List.cons_append, List.cons.injEq] at this
    rw [wrapIdx, if_neg (by simp [hw]), List.map_cons, bnds, List.cons_append, e i a (b :: t), this.2, e i a]

theorem boundaries_eq_bnds (w : α → α → Bool) (xs : List α) (hx : xs ≠ []) :
    0 :: wrapIdx w xs 0 ++ [xs.length] = bnds 0 ((runsBy w xs).map List.length) := by
  simpa using wrapIdx_bnds w xs 0 hx

theorem wrapIdx_nil_iff (w : α → α → Bool) (xs : List α) :
    wrapIdx w xs 0 = [] ↔ (runsBy w xs).length ≤ 1 := by
  cases xs with
  | nil => simp [wrapIdx, runsBy]
  | cons a t =>
    have h1 := congrArg List.length (boundaries_eq_bnds w (a :: t) (List.cons_ne_nil _ _))
    simp [bnds_length] at h1
    rw [← List.length_eq_zero_iff]
    omega

theorem fill_block (L R : List Int) (n : Nat) (x v : Int) :
    fill (L ++ List.replicate n x ++ R) L.length (L.length + n) v = L ++ List.replicate n v ++ R := by
  simp [fill, List.drop_append]

/-- Invariant of the segment loop: `pre` is the part of the series the loop has passed, `L` the labels painted on it, `c` the
    running counter. -/
theorem segLoop_paint (acc : List α → Bool) (rs : List (List α)) (pre : List α) (L : List Int) (c : Nat)
    (hL : L.length = pre.length) :
    segLoop acc (pre ++ rs.flatten) (bnds pre.length (rs.map List.length)) c
        (L ++ List.replicate rs.flatten.length (-1)) =
      L ++ paint (labelRuns acc c rs) := by
  induction rs generalizing pre L c with
  | nil => simp [bnds, segLoop, labelRuns, paint]
  | cons r rs ih =>
    have ih' := fun v c => ih (pre ++ r) (L ++ List.replicate r.length v) c (by simp [hL])
    simp only [List.flatten_cons, List.length_append, ← List.replicate_append_replicate, ← List.append_assoc] at ih' ⊢
    -- the first slice is `r` and is filled as a block; behind it the loop goes on with `pre ++ r` painted
    rw [List.map_cons, bnds, bnds_eq_cons, segLoop, ← bnds_eq_cons, ← hL, fill_block, hL, labelRuns, ih', ih']
    simp only [List.append_assoc, List.drop_left', Nat.add_sub_cancel_left, List.take_left']
    split <;> simp [paint_cons, labelInt]

theorem cvIdx_eq_paint (w : α → α → Bool) (acc : List α → Bool) (xs : List α) :
    cvIdx w acc xs = paint (cvSegs w acc xs) := by
  simp only [cvIdx]
  by_cases hn : wrapIdx w xs 0 = []
  · rw [if_pos hn, cvSegs_of_no_wrap ((wrapIdx_nil_iff w xs).mp hn), paint_all_none, runsBy_length_sum]
  · have hx : xs ≠ [] := by rintro rfl; exact hn rfl
    have := mt (wrapIdx_nil_iff w xs).mpr hn
    rw [if_neg hn, cvSegs_of_wrap (by omega), boundaries_eq_bnds w xs hx]
    simpa [runsBy_flatten] using segLoop_paint acc (runsBy w xs) [] [] 0 rfl

end Cycles
