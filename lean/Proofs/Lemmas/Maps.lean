/- Lemmas about the lookups of EmdModel.Maps: `np.where(v == k)`, `np.where(v > -1)`, `v[i]` as a label. -/
import EmdModel.Maps
import Proofs.Lemmas.Positions

namespace Maps

/-! ### `np.where(v == k)`, `np.where(v > -1)`: the offset loops are `List.positions` -/

theorem whereFrom_eq (k : Int) (off : Nat) (v : List Int) :
    whereFrom k off v = v.positions (fun x => decide (x = k)) off := by
  induction v generalizing off with
  | nil => rfl
  | cons x t ih => simp [whereFrom, List.positions_cons, ih]

theorem selectedFrom_eq (off : Nat) (v : List Int) :
    selectedFrom off v = v.positions (fun x => decide (-1 < x)) off := by
  induction v generalizing off with
  | nil => rfl
  | cons x t ih => simp [selectedFrom, List.positions_cons, ih]

theorem whereFrom_sorted (k : Int) (off : Nat) (v : List Int) :
    (whereFrom k off v).Pairwise (· < ·) := by
  rw [whereFrom_eq]; exact List.positions_sorted _ _ _

theorem selected_sorted (sv : List Int) : (selected sv).Pairwise (· < ·) := by
  rw [selected, selectedFrom_eq]; exact List.positions_sorted _ _ _

variable {v : List Int}

theorem mem_whereEq {k i : Nat} : i ∈ whereEq v k ↔ v[i]? = some (k : Int) := by
  simp [whereEq, whereFrom_eq, List.mem_positions]

theorem mem_selected {k : Nat} : k ∈ selected v ↔ ∃ l, v[k]? = some l ∧ -1 < l := by
  simp [selected, selectedFrom_eq, List.mem_positions]

theorem whereEq_lt {k i : Nat} (hi : i ∈ whereEq v k) : i < v.length :=
  (List.getElem?_eq_some_iff.mp (mem_whereEq.mp hi)).1

theorem whereEq_ne_nil {k : Nat} (h : (k : Int) ∈ v) : whereEq v k ≠ [] := by
  obtain ⟨i, hi⟩ := List.mem_iff_getElem?.mp h
  exact List.ne_nil_of_mem (mem_whereEq.mpr hi)

theorem whereEq_cons (x : Int) (t : List Int) (k : Nat) :
    whereEq (x :: t) k = (if x = k then [0] else []) ++ (whereEq t k).map (· + 1) := by
  simp only [whereEq, whereFrom_eq, List.positions_cons, List.positions_succ, decide_eq_true_eq]
  split <;> rfl

/-! ### labels -/

theorem label?_eq_some {l : Int} {k : Nat} : label? l = some k ↔ l = (k : Int) := by
  unfold label?; split <;> simp <;> omega

theorem label?_eq_none {l : Int} : label? l = none ↔ l ≤ -1 := by
  unfold label?; split <;> simp <;> omega

theorem lookupLabel_ok {i : Nat} {r : Option Nat} :
    lookupLabel v i = .ok r ↔ ∃ l, v[i]? = some l ∧ label? l = r := by
  unfold lookupLabel
  cases h : v[i]? <;> simp

theorem lookupLabel_some {i k : Nat} : lookupLabel v i = .ok (some k) ↔ v[i]? = some (k : Int) := by
  simp only [lookupLabel_ok, label?_eq_some, exists_eq_right]

theorem lookupLabel_none {i : Nat} : lookupLabel v i = .ok none ↔ ∃ l, v[i]? = some l ∧ l ≤ -1 := by
  simp only [lookupLabel_ok, label?_eq_none]

theorem lookupLabel_total {i : Nat} (h : i < v.length) : ∃ r, lookupLabel v i = .ok r := by
  unfold lookupLabel
  simp [List.getElem?_eq_getElem h]

end Maps
