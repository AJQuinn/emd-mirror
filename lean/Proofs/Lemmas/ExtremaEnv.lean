/- The padded extrema as knots of the envelope: ordered, covering both edges, so that the evaluation grid is the sample
   grid; the envelope passes through the unrefined extrema; pad width 0 is rejected.  Last, an interpolant that meets the
   oracle contract `Interp.Interpolates`, for the examples. -/
import Proofs.Lemmas.ExtremaPadded
import Proofs.Lemmas.ExtremaGrid

namespace Extrema

variable {w : Nat} {m : Mode} {parab : Bool} {x : Sig} {locs mags : List Rat}

theorem paddedExtrema_locs_sep
    (h : paddedExtrema w m parab x = .ok locs mags) : locs.Pairwise (fun a b => a + 1 ≤ b) := by
  obtain ⟨_, a, z, k, _, _, ⟨L, Rr, _, _, _, _, hch⟩, _⟩ := paddedExtrema_ok h
  exact hch.pairwise (reflRel_sep 1 (by decide +kernel)) (extrema_locs_sep m parab x)

theorem paddedExtrema_lengths
    (h : paddedExtrema w m parab x = .ok locs mags) : locs.length = mags.length := by
  obtain ⟨_, a, z, k, _, _, ⟨L, Rr, hl, hL, hR, he, _⟩, _⟩ := paddedExtrema_ok h
  rw [hl, he]; simp [hL, hR, extrema_length]

theorem paddedExtrema_covers' (hw : 1 ≤ w)
    (h : paddedExtrema w m parab x = .ok locs mags) :
    ∃ a z, locs.head? = some a ∧ locs.getLast? = some z ∧ a < 0 ∧ (x.length : Rat) ≤ z := by
  have hs := sep_imp_lt (paddedExtrema_locs_sep h)
  obtain ⟨_, _, _, _, _, hpos⟩ := paddedExtrema_iterate h
  obtain ⟨_, _, _, hnm, _⟩ := hpos hw
  rw [needsMore_eq_false_iff] at hnm
  have hne : locs ≠ [] := by rintro rfl; exact Rat.lt_irrefl hnm.1
  rw [lmin_of_sorted _ hne hs, lmax_of_sorted _ hne hs] at hnm
  exact ⟨_, _, List.head?_eq_some_head hne, List.getLast?_eq_some_getLast hne, hnm⟩

theorem interpEnvelope_ok (I : Interp) (em : EMode) {env : List Rat}
    (h : interpEnvelope I em w parab x = .ok env locs mags) :
    paddedExtrema w em.toMode parab x = .ok locs mags ∧ env = (envGrid locs x.length).map (I.eval locs mags) ∧
      env.length = x.length := by
  unfold interpEnvelope at h
  cases hp : paddedExtrema w em.toMode parab x with
  | none => simp [hp] at h
  | fuel => simp [hp] at h
  | ok l e =>
    simp only [hp] at h
    by_cases hlen : ((envGrid l x.length).map (I.eval l e)).length = x.length
    · rw [if_neg (by simpa using hlen)] at h
      injection h with h1 h2 h3
      subst h1 h2 h3
      exact ⟨rfl, rfl, hlen⟩
    · rw [if_pos hlen] at h
      cases h

theorem paddedExtrema_grid (hw : 1 ≤ w)
    (h : paddedExtrema w m parab x = .ok locs mags) :
    envGrid locs x.length = (List.range x.length).map (fun (k : Nat) => (k : Rat)) := by
  obtain ⟨a, z, ha, hz, h0, hn⟩ := paddedExtrema_covers' hw h
  exact envGrid_eq_range' ha hz (Rat.le_of_lt h0) hn

theorem padInv_knot {l e : List Rat} {a z : Rat} {k : Nat} (h : PadInv l e a z k locs mags)
    (P : List Nat) (g : Nat → Rat) (hl : l = P.map (fun (i : Nat) => (i : Rat))) (he : e = P.map g)
    (p : Nat) (hp : p ∈ P) : ∃ i : Nat, locs[i]? = some (p : Rat) ∧ mags[i]? = some (g p) := by
  obtain ⟨L, Rr, hlocs, hL, hR, hmags, _⟩ := h
  obtain ⟨j, hj⟩ := List.mem_iff_getElem?.mp hp
  have hjlt : j < P.length := (List.getElem?_eq_some_iff.mp hj).1
  refine ⟨k + j, ?_, ?_⟩
  · rw [hlocs, List.append_assoc, List.getElem?_append_right (by omega), hL, Nat.add_sub_cancel_left,
      List.getElem?_append_left (by rw [hl]; simpa using hjlt), hl, List.getElem?_map, hj]; rfl
  · rw [hmags, List.append_assoc, List.getElem?_append_right (by simp), List.length_replicate, Nat.add_sub_cancel_left,
      List.getElem?_append_left (by rw [he]; simpa using hjlt), he, List.getElem?_map, hj]; rfl

/-- `P` are the indices and `g p` the magnitudes of the mode's unrefined extrema; one statement for the three modes -/
theorem envelope_passes_through (I : Interp) (hI : I.Interpolates) (em : EMode) (hw : 1 ≤ w)
    {env : List Rat} (h : interpEnvelope I em w false x = .ok env locs mags)
    (P : List Nat) (g : Nat → Rat) (hl : (extrema em.toMode false x).1 = P.map (fun (i : Nat) => (i : Rat)))
    (he : (extrema em.toMode false x).2 = P.map g) (p : Nat) (hp : p ∈ P) : env[p]? = some (g p) := by
  have hpn : p < x.length := Nat.cast_lt.mp
    (extrema_locs_bounds em.toMode false x p (hl ▸ List.mem_map_of_mem (f := fun (i : Nat) => (i : Rat)) hp)).2
  obtain ⟨hpad, henv, _⟩ := interpEnvelope_ok I em h
  obtain ⟨_, a, z, k, _, _, hinv, _⟩ := paddedExtrema_ok hpad
  obtain ⟨i, hi1, hi2⟩ := padInv_knot hinv P g hl he p hp
  have hval := hI locs mags i (p : Rat) (g p) (sep_imp_lt (paddedExtrema_locs_sep hpad))
    (paddedExtrema_lengths hpad) hi1 hi2
  rw [henv, paddedExtrema_grid hw hpad, List.map_map, List.getElem?_map,
    List.getElem?_range hpn, Option.map_some, Function.comp, hval]

/-- pad width 0: `interp_envelope` either returns None (fewer than two extrema) or rejects the input, because the
    unpadded extrema lie strictly inside the signal and the evaluation grid misses sample 0 -/
theorem interpEnvelope_zero (I : Interp) (em : EMode) :
    interpEnvelope I em 0 parab x =
      if (extrema em.toMode parab x).1.length ≤ 1 then .none else .valueError := by
  unfold interpEnvelope
  rw [paddedExtrema_eq]
  by_cases hlen : (extrema em.toMode parab x).1.length ≤ 1
  · rw [padFrom_short hlen, if_pos hlen]
  · rw [padFrom_zero (by omega), if_neg hlen]
    have hne : (extrema em.toMode parab x).1 ≠ [] := List.ne_nil_of_length_pos (by omega)
    have ha := extrema_locs_bounds em.toMode parab x _ (List.head_mem hne)
    have hn : 1 ≤ x.length := Nat.cast_pos.mp (ha.1.trans ha.2)
    have hlt := envGrid_length_lt (List.head?_eq_some_head hne) ha.1 hn
    simp only [List.length_map, ne_eq]
    rw [if_pos (by omega)]

/-! ### a concrete interpolant meeting the oracle contract (for non-vacuity examples) -/

def knotInterp : Interp := { eval := fun locs mags t => ((locs.zip mags).lookup t).getD 0 }

theorem knotInterp_lookup : ∀ (locs mags : List Rat) (i : Nat) (t v : Rat), locs.Pairwise (· < ·) →
    locs[i]? = some t → mags[i]? = some v → (locs.zip mags).lookup t = some v := by
  intro locs
  induction locs with
  | nil => intro mags i t v _ h; cases h
  | cons a l ih =>
    intro mags i t v hs h1 h2
    match mags, i with
    | [], _ => cases h2
    | b :: m, 0 =>
      cases h1; cases h2
      exact List.lookup_cons_self
    | b :: m, j + 1 =>
      -- `t` lies further on in the strictly increasing list, so it is not the first knot
      have hne : (t == a) = false :=
        beq_eq_false_iff_ne.mpr (ne_of_gt ((List.pairwise_cons.mp hs).1 t (List.mem_of_getElem? h1)))
      rw [List.zip_cons_cons, List.lookup_cons, hne]
      exact ih m j t v (List.pairwise_cons.mp hs).2 h1 h2

end Extrema
