/-
  Cross-model consistency: the cycle vector stored in the container (C15) is the cycle vector of
  the cycle detector's model (C12, `EmdModel/Cycles.lean`) with all cycles requested, in every state
  reachable from `init`; its `K` is the detector's number of cycles; the `is_good` metric stored by
  the constructor is the per-cycle quality flag of C13, whatever the constructor's other options
  (`Container.initOpts_isGood`, `initOpts_flags`).
-/
import Proofs.Lemmas.MapsCycles
import Proofs.Lemmas.ContainerRun

namespace ComposeContainer
open Container Cycles

theorem run_cv (F : List Char → Option Rat) (g : GoodCfg) (pstep thr : Rat) (cache : Bool) (ph : List Rat)
    (ops : List Op) :
    (run F (init g pstep thr cache ph).1 ops).cv = paint (cvSegs (wrapAt pstep) (fun _ => true) ph) ∧
    (run F (init g pstep thr cache ph).1 ops).K = nCycles (cvSegs (wrapAt pstep) (fun _ => true) ph) := by
  obtain ⟨h1, h2, _⟩ := run_frame F (init g pstep thr cache ph).1 ops
  rw [h1, h2, init_ok]
  dsimp only [init0]
  exact ⟨rfl, Maps.nLabels_paint⟩

theorem isGood_metric (g : GoodCfg) (step : Rat) (ph : List Rat) :
    lookupStat (isGoodF g) (paint (cvSegs (wrapAt step) (fun _ => true) ph)) ph =
      (containerIsGood g step ph).map fun b => some (if b then 1 else 0) := by
  rcases Nat.lt_or_ge 1 (runsBy (wrapAt step) ph).length with hw | hw
  · -- with the cache on the statistic is taken over the slices, and these are the runs
    have hS := sliceVals_paint_labelRuns 0 _ (runsBy_ne_nil (w := wrapAt step) (xs := ph)) []
    rw [List.nil_append, runsBy_flatten, ← cvSegs_of_wrap (acc := fun _ => true) hw] at hS
    rw [containerIsGood_eq g step ph hw, ← hS]
    exact (cycleStatV_eq_lookup (cache := true) (mode := .cycle) (thr := 0) (ph := []) (init_cvOK (wrapAt step) ph)).symm.trans
      (by simp [cycleStatV, sliceStat, sliceCache, isGoodF])
  · -- no wrap: no cycle, no flag
    rw [lookupStat, show nLabels _ = nCycles _ from Maps.nLabels_paint, nCycles_of_no_wrap hw]
    simp [containerIsGood, cvSegs_of_no_wrap hw, List.filter_map]

theorem init_isGood (g : GoodCfg) (pstep thr : Rat) (cache : Bool) (ph : List Rat) :
    sget (init g pstep thr cache ph).1.metrics isGoodName =
      some ((containerIsGood g pstep ph).map fun b => some (if b then 1 else 0)) := by
  rw [init_ok, ← isGood_metric]
  simp [sget, init0]

end ComposeContainer

namespace Container

theorem initOpts_isGood (g : Cycles.GoodCfg) (pstep thr : Rat) (cache : Bool) (mode : Mode) (timings : Bool)
    (ph : List Rat) :
    sget (initOpts g pstep thr cache mode timings ph).1.metrics isGoodName =
      some ((Cycles.containerIsGood g pstep ph).map fun b => some (if b then 1 else 0)) := by
  unfold initOpts
  have hok : (init g pstep thr cache ph).2 = .ok .done := by rw [init_ok]
  simp only [hok]
  cases timings with
  | false => exact ComposeContainer.init_isGood g pstep thr cache ph
  | true =>
    -- `compute_cycle_timings` stores under three other names
    exact (step_sget_other (fun _ => none) _ .computeTimings isGoodName (by decide +kernel)).trans
      (ComposeContainer.init_isGood g pstep thr cache ph)

theorem initOpts_flags (g : Cycles.GoodCfg) (pstep thr : Rat) (cache : Bool) (mode : Mode) (timings : Bool)
    (ph : List Rat) :
    isGoodFlags (initOpts g pstep thr cache mode timings ph).1 = some (Cycles.containerIsGood g pstep ph) := by
  unfold isGoodFlags
  rw [initOpts_isGood]
  induction Cycles.containerIsGood g pstep ph with
  | nil => rfl
  | cons b t ih =>
    simp only [List.map_cons, List.mapM_cons, ih]
    cases b <;> simp

end Container
