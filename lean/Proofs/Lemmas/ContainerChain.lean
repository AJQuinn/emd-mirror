/- Chain metrics: the `chain_position` vector, success of `compute_chain_metric` and
   `compute_chain_timings` under a selection. -/
import Proofs.Lemmas.ContainerInv

namespace Container

theorem posInChainFrom_getElem? (seen chain : List Nat) (j : Nat) :
    (posInChainFrom seen chain)[j]? = chain[j]?.map fun c => seen.count c + (chain.take j).count c := by
  induction chain generalizing seen j with
  | nil => rfl
  | cons x t ih =>
    cases j with
    | zero => simp [posInChainFrom, List.count_eq_countP, List.countP_eq_length_filter, Bool.beq_eq_decide_eq]
    | succ j' =>
      simp only [posInChainFrom, List.getElem?_cons_succ, ih, List.take_succ_cons, List.count_cons]
      cases t[j']? with
      | none => rfl
      | some c => simp only [Option.map_some, Option.some.injEq]; omega

/-- the vector `compute_position_in_chain` stores -/
def chainPosition (sel : Sel) : List Val :=
  nanToMinusOne (projSubsetToCycles ((posInChain sel.chain).map fun (p : Nat) => some (p : Rat)) sel.subset)

theorem chainPosition_getElem? {sel : Sel} {k : Nat} {j : Int} (h : sel.subset[k]? = some j) :
    (chainPosition sel)[k]? = some (some (if 0 ≤ j then
        (match sel.chain[j.toNat]? with
         | some c => (((sel.chain.take j.toNat).count c : Nat) : Rat)
         | none => -1)
      else -1)) := by
  simp only [chainPosition, nanToMinusOne, projSubsetToCycles, List.getElem?_map, h, Option.map_some]
  by_cases h0 : 0 ≤ j
  · simp only [h0, ite_true, posInChain, posInChainFrom_getElem?]
    cases sel.chain[j.toNat]? <;> simp
  · simp [h0]

theorem computePositionInChain_ok (s : State) (sel : Sel) (hs : s.sel = some sel) :
    computePositionInChain s = ({ s with metrics := sset s.metrics chainPositionName (chainPosition sel) }, .ok .done) := by
  unfold computePositionInChain
  rw [hs]
  rfl

theorem computeChainMetric_ok (s : State) (h : Inv s) (sel : Sel) (hs : s.sel = some sel) (name : Name) (vals : List Rat)
    (f : List Rat → Rat) (asInt : Bool) :
    let v := projChainToCycles (chainStat f s.cv sel.subset sel.chain vals) sel.chain sel.subset
    (if asInt then toIntVals v else v).length = s.K ∧
      computeChainMetric s name vals f asInt =
        ({ s with metrics := sset s.metrics name (if asInt then toIntVals v else v) }, .ok .done) := by
  intro v
  have hl : (if asInt then toIntVals v else v).length = s.K := by
    cases asInt <;> simp [v, toIntVals, projChainToCycles, projSubsetToCycles, (h.sel sel hs).len]
  have e : computeChainMetric s name vals f asInt = addMetric s name (if asInt then toIntVals v else v) := by
    simp only [computeChainMetric, hs, v]
  exact ⟨hl, e.trans (addMetric_ok hl)⟩

theorem chainTimings_position (s : State) (h : Inv s) (sel : Sel) (hs : s.sel = some sel) :
    (computeChainTimings s).2 = .ok .done ∧
      sget (computeChainTimings s).1.metrics chainPositionName = some (chainPosition sel) := by
  -- each of the four chain metrics succeeds and keeps the invariant and the selection
  have stage : ∀ (t : State) name vals f, Inv t ∧ t.sel = some sel →
      ∃ t', computeChainMetric t name vals f true = (t', .ok .done) ∧ Inv t' ∧ t'.sel = some sel := by
    intro t name vals f ht
    obtain ⟨hl, e⟩ := computeChainMetric_ok t ht.1 sel ht.2 name vals f true
    exact ⟨_, e, ht.1.store hl, ht.2⟩
  obtain ⟨t1, e1, h1⟩ := stage s "chain_start".toList (arange s.cv.length) fFirst ⟨h, hs⟩
  obtain ⟨t2, e2, h2⟩ := stage t1 "chain_end".toList (arange t1.cv.length) fLast h1
  obtain ⟨t3, e3, h3⟩ := stage t2 "chain_len_samples".toList (cvRat t2.cv) fLen h2
  obtain ⟨t4, e4, h4⟩ := stage t3 "chain_len_cycles".toList (cvRat t3.cv) fNunique h3
  simp only [computeChainTimings, seqOps, e1, e2, e3, e4, computePositionInChain_ok t4 sel h4.2, sget_sset_same, and_self]

end Container
