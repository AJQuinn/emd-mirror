/- Whole operation histories (`run_induct` and its instances).  The constructor: the label vector of the
   all-cycles detection (C12 model) satisfies `CvOK` and its cache slices cut the phase into the runs, so the
   state it starts from (`init0`) is coherent and `init` succeeds (`init_ok`).  The concrete state `exState`. -/
import Proofs.Lemmas.ContainerInv
import Proofs.Lemmas.Cycles

namespace Container
open Cycles

def runOuts (F : List Char → Option Rat) : State → List Op → List (Except Err Out)
  | _, [] => []
  | s, o :: t => (step F s o).2 :: runOuts F (step F s o).1 t

theorem run_cons (F : List Char → Option Rat) (s : State) (o : Op) (t : List Op) :
    run F s (o :: t) = run F (step F s o).1 t := rfl

theorem run_induct (F : List Char → Option Rat) (P : State → Prop) (ops : List Op)
    (hstep : ∀ t, ∀ op ∈ ops, P t → P (step F t op).1) (s : State) (hs : P s) : P (run F s ops) := by
  induction ops generalizing s with
  | nil => exact hs
  | cons o t ih => exact ih (fun u op hop => hstep u op (by simp [hop])) _ (hstep s o (by simp) hs)

theorem run_inv (F : List Char → Option Rat) (s : State) (ops : List Op) (h : Inv s) : Inv (run F s ops) :=
  run_induct F Inv ops (fun t op _ => step_inv F t op) s h

theorem run_good (F : List Char → Option Rat) (s : State) (ops : List Op) (h : HasGood s) : HasGood (run F s ops) :=
  run_induct F HasGood ops (fun t op _ => step_good F t op) s h

theorem run_frame (F : List Char → Option Rat) (s : State) (ops : List Op) : Frame s (run F s ops) :=
  run_induct F (Frame s) ops (fun t op _ ht => ht.trans (step_frame F t op)) s (Frame.refl s)

/-! ### the constructor -/

theorem rle_paint_labelRuns_cons {α : Type} (c : Nat) (r : List α) (t : List (List α)) (hr : r ≠ []) :
    rle (paint (labelRuns (fun _ => true) c (r :: t))) =
      ((c : Int), r.length) :: rle (paint (labelRuns (fun _ => true) (c + 1) t)) := by
  obtain ⟨n, hn⟩ := Nat.exists_eq_succ_of_ne_zero (mt List.length_eq_zero_iff.mp hr)
  simp only [labelRuns, if_true, paint_cons, labelInt, hn]
  -- the samples of `r` are one run of `rle`: what follows carries larger labels
  exact rle_replicate_append _ _ _ fun x hx => by
    have := paint_labelRuns_true_ge t (c + 1) x (List.mem_of_head? hx); omega

theorem labelsFrom_paint_labelRuns {α : Type} (c : Nat) (rs : List (List α)) (hne : ∀ r ∈ rs, r ≠ []) :
    LabelsFrom c rs.length (rle (paint (labelRuns (fun _ => true) c rs))) := by
  induction rs generalizing c with
  | nil => rfl
  | cons r t ih =>
    have ih := ih (c + 1) fun x hx => hne x (by simp [hx])
    rw [rle_paint_labelRuns_cons c r t (hne r (by simp))]
    unfold LabelsFrom at ih ⊢
    rw [List.filter_cons_of_pos (by simp), List.map_cons, ih, List.length_cons, List.range'_succ, List.map_cons]
    rfl

theorem sliceVals_paint_labelRuns (c : Nat) (rs : List (List Rat)) (hne : ∀ r ∈ rs, r ≠ []) (pre : List Rat) :
    (sliceFrom pre.length (rle (paint (labelRuns (fun _ => true) c rs)))).map (sliceVals (pre ++ rs.flatten)) = rs := by
  induction rs generalizing c pre with
  | nil => rfl
  | cons r t ih =>
    have ih := ih (c + 1) (fun x hx => hne x (by simp [hx])) (pre ++ r)
    rw [rle_paint_labelRuns_cons c r t (hne r (by simp))]
    simp only [List.length_append, List.append_assoc] at ih
    simp [sliceFrom, sliceVals, ih]

theorem init_cvOK {α : Type} (w : α → α → Bool) (xs : List α) :
    CvOK (paint (cvSegs w (fun _ => true) xs)) (nLabels (paint (cvSegs w (fun _ => true) xs))) := by
  suffices h : ∃ K, CvOK (paint (cvSegs w (fun _ => true) xs)) K by
    obtain ⟨K, hK⟩ := h
    rw [nLabels_eq hK.1]; exact hK
  rcases Nat.lt_or_ge 1 (runsBy w xs).length with hw | hw
  · rw [cvSegs_of_wrap hw]
    exact ⟨_, labelsFrom_paint_labelRuns 0 _ runsBy_ne_nil, fun _ l hl => by
      simpa using paint_labelRuns_true_ge _ 0 l hl⟩
  · -- no wrap: every sample carries -1, so no run is labelled
    refine ⟨0, ?_, by omega⟩
    have hneg := paint_no_wrap (acc := fun _ => true) hw
    unfold WF LabelsFrom
    rw [List.filter_eq_nil_iff.mpr, List.map_nil]
    · rfl
    · intro r hr
      have := hneg r.1 (by rw [← rle_expand (paint _)]; exact mem_expand.mpr ⟨r, hr, rle_pos _ r hr, rfl⟩)
      simp; omega

/-- the state the constructor starts from, before the `is_good` metric is computed -/
def init0 (pstep thr : Rat) (cache : Bool) (ph : List Rat) : State :=
  let cv := paint (cvSegs (wrapAt pstep) (fun _ => true) ph)
  { cv, K := nLabels cv, phase := ph, thr, cache, metrics := [], sel := none }

theorem init0_inv (pstep thr : Rat) (cache : Bool) (ph : List Rat) : Inv (init0 pstep thr cache ph) := by
  refine ⟨?_, fun _ h => (nomatch h), List.nodup_nil, fun _ h => (nomatch h)⟩
  -- project the fields first: left to unification, `(init0 …).K =?= nLabels …` is decided by evaluating `Nat` terms
  dsimp only [init0]
  exact init_cvOK _ _

theorem init0_cv_length (pstep thr : Rat) (cache : Bool) (ph : List Rat) :
    ph.length = (init0 pstep thr cache ph).cv.length :=
  paint_cvSegs_length.symm

theorem init_ok (g : GoodCfg) (pstep thr : Rat) (cache : Bool) (ph : List Rat) :
    init g pstep thr cache ph =
      ({ init0 pstep thr cache ph with
          metrics := [(isGoodName, lookupStat (isGoodF g) (init0 pstep thr cache ph).cv ph)] }, .ok .done) :=
  computeMetric_ok (init0_inv pstep thr cache ph) (init0_cv_length pstep thr cache ph)

/-! ### a concrete container state for the non-vacuity examples -/

/-- three cycles (samples 0-1, 2-4, 5), an `is_good` metric, cycles 0 and 2 selected as two chains -/
def exState : State :=
  { cv := [0, 0, 1, 1, 1, 2], K := 3, phase := [1/10, 5, 1/10, 3, 6, 1/5], thr := 4, cache := true,
    metrics := [(isGoodName, [some 1, some 0, some 1])],
    sel := some { conds := [], subset := [0, -1, 1], chain := [0, 1] } }

theorem exState_wf : WF [0, 0, 1, 1, 1, 2] 3 := by unfold WF LabelsFrom; decide +kernel

theorem exState_inv : Inv exState :=
  ⟨⟨exState_wf, by decide +kernel⟩, by decide +kernel, by decide +kernel, by
    intro sel hsel
    simp only [exState, Option.some.injEq] at hsel
    subst hsel
    exact ⟨by decide +kernel, by decide +kernel, by decide +kernel⟩⟩

end Container
