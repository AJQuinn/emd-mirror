/- Time reversal through the extrema / envelope model, for integer (unrefined) extrema locations: the extrema of the
   reversed signal are the mirror image (`mirror`), padding commutes with mirroring, and on integers so does the loop test. -/
import Proofs.Lemmas.EquivarianceScale

namespace Extrema

/-! ### vocabulary -/

def PadResult.mirror (n : Nat) : PadResult → PadResult
  | .ok l e => .ok (Extrema.mirror n l) e.reverse
  | r => r

def EnvResult.mirror (n : Nat) : EnvResult → EnvResult
  | .ok env l e => .ok env.reverse (Extrema.mirror n l) e.reverse
  | r => r

/-- oracle contract: mirroring the knots about `(n-1)/2` (and listing them in increasing order again)
    mirrors the interpolant (validated against scipy on every run: `interp_reversible`) -/
def Interp.Reversible (I : Interp) : Prop :=
  ∀ (n : Nat) (locs mags : List Rat) (t : Rat), locs.Pairwise (· < ·) → locs.length = mags.length →
    I.eval (mirror n locs) mags.reverse ((n : Rat) - 1 - t) = I.eval locs mags t

/-- all locations are integers (no parabolic refinement) -/
def IntLocs (l : List Rat) : Prop := ∀ v ∈ l, ∃ k : Int, v = (k : Rat)

/-! ### detection -/

variable {w n : Nat} {x : Sig}

theorem cast_mirror {i : Nat} (h : i < n) : ((n - 1 - i : Nat) : Rat) = (n : Rat) - 1 - (i : Rat) := by
  rw [Nat.sub_sub, Nat.cast_sub (by omega)]
  push_cast
  ring

theorem at'_reverse_of_add {i m : Nat} (h : i + m + 1 = x.length) : at' x.reverse i = at' x m := by
  rw [at', at', List.getD_eq_getElem?_getD, List.getD_eq_getElem?_getD, List.getElem?_reverse' h]

theorem findPeaks_of_reverse {i j : Nat} (h : i + j + 1 = x.length) (hj : j ∈ findPeaks x.reverse) :
    i ∈ findPeaks x := by
  obtain ⟨h0, hn, hl, hr⟩ := (mem_findPeaks_at' _ j).mp hj
  rw [List.length_reverse] at hn
  obtain ⟨j, rfl⟩ : ∃ j', j = j' + 1 := ⟨j - 1, (Nat.sub_add_cancel h0).symm⟩
  obtain ⟨i, rfl⟩ : ∃ i', i = i' + 1 := ⟨i - 1, by omega⟩
  -- the samples `j, j+1, j+2` of the reversed signal are the samples `i+2, i+1, i` of the signal
  rw [Nat.add_sub_cancel, at'_reverse_of_add (m := i + 2) (by omega), at'_reverse_of_add (m := i + 1) (by omega)] at hl
  rw [at'_reverse_of_add (m := i) (by omega), at'_reverse_of_add (m := i + 1) (by omega)] at hr
  exact (mem_findPeaks_at' x (i + 1)).mpr ⟨Nat.succ_pos i, by omega, hr, hl⟩

theorem mem_findPeaks_reverse (j : Nat) :
    j ∈ findPeaks x.reverse ↔ ∃ i ∈ findPeaks x, i + j + 1 = x.length := by
  constructor
  · intro hj
    have hlt := findPeaks_lt hj
    rw [List.length_reverse] at hlt
    exact ⟨x.length - (j + 1), findPeaks_of_reverse (by omega) hj, by omega⟩
  · rintro ⟨i, hi, h⟩
    exact findPeaks_of_reverse (x := x.reverse) (by rw [List.length_reverse, Nat.add_comm j i]; exact h)
      (by rwa [List.reverse_reverse])

theorem findPeaks_reverse' :
    findPeaks x.reverse = ((findPeaks x).map fun i => x.length - 1 - i).reverse := by
  have hb : ∀ i ∈ findPeaks x, i + 1 < x.length := fun i hi => ((mem_findPeaks_at' x i).mp hi).2.1
  refine List.eq_of_sorted_of_mem_iff (peaksFrom_sorted 0 _) ?_ fun j => ?_
  · rw [List.pairwise_reverse, List.pairwise_map]
    exact (peaksFrom_sorted 0 x).imp_of_mem fun {a b} _ hb' hab => by have := hb b hb'; omega
  · rw [mem_findPeaks_reverse, List.mem_reverse, List.mem_map]
    exact exists_congr fun i => and_congr_right fun hi => by have := hb i hi; omega

/-! ### raw extrema and the mode switch -/

theorem rawExtrema_reverse :
    rawExtrema false x.reverse = (mirror x.length (rawExtrema false x).1, (rawExtrema false x).2.reverse) := by
  simp only [rawExtrema, Bool.false_eq_true, if_false, findPeaks_reverse', mirror, List.map_reverse, List.map_map]
  refine Prod.ext (congrArg List.reverse (List.map_congr_left fun i hi => ?_))
    (congrArg List.reverse (List.map_congr_left fun i hi => ?_))
  · exact cast_mirror (findPeaks_lt hi)
  · exact at'_reverse_of_add (i := x.length - 1 - i) (by have := findPeaks_lt hi; omega)

theorem extrema_reverse (m : Mode) :
    extrema m false x.reverse = (mirror x.length (extrema m false x).1, (extrema m false x).2.reverse) := by
  cases m
  · exact rawExtrema_reverse
  · simp only [extrema, Sig.neg_reverse, rawExtrema_reverse, Sig.length_neg]
  · simp only [extrema, List.map_reverse, rawExtrema_reverse, List.length_map]

theorem intLocs_extrema (m : Mode) : IntLocs (extrema m false x).1 := by
  rw [extrema_locs]
  intro v hv
  simp only [rawExtrema, Bool.false_eq_true, if_false, List.mem_map] at hv
  obtain ⟨i, _, rfl⟩ := hv
  exact ⟨(i : Int), by simp⟩

/-! ### padding is mirror-symmetric -/

theorem padOddAux_mirror (m : Nat) : ∀ (f rem : Nat) (l : List Rat),
    padOddAux m f rem (mirror n l) = mirror n (padOddAux m f rem l)
  | 0, _, _ => rfl
  | f + 1, rem, l => by
    by_cases h0 : rem = 0
    · rw [h0, padOddAux_zero, padOddAux_zero]
    · rw [padOddAux_succ m f _ h0, padOddAux_succ m f _ h0, mirror_length, padOddOnce_mirrorImage, padOddAux_mirror]

theorem padOdd_mirror (n w : Nat) (l : List Rat) (hl : 2 ≤ l.length) :
    padOdd w (mirror n l) = mirror n (padOdd w l) := by
  rw [padOdd_eq_aux w l hl, padOdd_eq_aux w (mirror n l) (by rw [mirror_length]; exact hl), mirror_length,
    padOddAux_mirror]

/-! ### integrality is preserved by padding -/

theorem intLocs_mirror (n : Nat) {l : List Rat} (h : IntLocs l) : IntLocs (mirror n l) := by
  intro v hv
  simp only [mirror, List.mem_reverse, List.mem_map] at hv
  obtain ⟨u, hu, rfl⟩ := hv
  obtain ⟨k, rfl⟩ := h u hu
  exact ⟨(n : Int) - 1 - k, by push_cast; ring⟩

theorem intLocs_leftRefl (c : Nat) {l : List Rat} (h : IntLocs l) : IntLocs (leftRefl c l) := by
  match l with
  | [] => exact h
  | a :: t =>
    intro v hv
    simp only [leftRefl, List.mem_map, List.mem_reverse] at hv
    obtain ⟨u, hu, rfl⟩ := hv
    obtain ⟨ka, rfl⟩ := h a List.mem_cons_self
    obtain ⟨ku, rfl⟩ := h u (List.mem_cons_of_mem _ (List.mem_of_mem_take hu))
    exact ⟨2 * ka - ku, by push_cast; ring⟩

theorem intLocs_padOddOnce (c : Nat) {l : List Rat} (h : IntLocs l) : IntLocs (padOddOnce c l) := by
  intro v hv
  simp only [padOddOnce, List.mem_append] at hv
  rcases hv with (hv | hv) | hv
  · exact intLocs_leftRefl c h v hv
  · exact h v hv
  · rw [rightRefl_eq 0] at hv
    exact intLocs_mirror 0 (intLocs_leftRefl c (intLocs_mirror 0 h)) v hv

theorem PadChain.intLocs {l r : List Rat} (h : PadChain l r) (hl : IntLocs l) : IntLocs r := by
  induction h with
  | refl => exact hl
  | step c _ _ _ ih => exact intLocs_padOddOnce c ih

/-! ### the loop test is symmetric on integer locations -/

/-- on integers the two halves of the loop test trade places under `v ↦ n-1-v` -/
theorem mirror_test_int (k : Int) :
    ((0 : Rat) ≤ (n : Rat) - 1 - (k : Rat) ↔ (k : Rat) < (n : Rat)) ∧
      ((n : Rat) - 1 - (k : Rat) < (n : Rat) ↔ (0 : Rat) ≤ (k : Rat)) := by
  have e : (n : Rat) - 1 - (k : Rat) = (((n : Int) - 1 - k : Int) : Rat) := by push_cast; rfl
  rw [e, ← Int.cast_zero (R := Rat), ← Int.cast_natCast (R := Rat) n, Int.cast_le, Int.cast_lt, Int.cast_lt, Int.cast_le]
  omega

theorem needsMore_mirror (l : List Rat) (hne : l ≠ []) (hs : l.Pairwise (· < ·)) (hi : IntLocs l) :
    needsMore n (mirror n l) = needsMore n l := by
  have hne' : mirror n l ≠ [] := by simpa [mirror] using hne
  obtain ⟨ka, hka⟩ := hi (l.head hne) (List.head_mem hne)
  obtain ⟨kz, hkz⟩ := hi (l.getLast hne) (List.getLast_mem hne)
  unfold needsMore
  rw [lmin_of_sorted _ hne' (mirror_pairwise reflRel_lt n hs), lmax_of_sorted _ hne' (mirror_pairwise reflRel_lt n hs),
    lmin_of_sorted l hne hs, lmax_of_sorted l hne hs]
  simp only [mirror, List.head_reverse, List.getLast_reverse, List.getLast_map, List.head_map, hka, hkz,
    (mirror_test_int kz).1, (mirror_test_int ka).2, Bool.or_comm]

/-- a round of padding keeps what the symmetry of the loop rests on: strictly ordered integer locations, at least two -/
theorem padOdd_keeps (w : Nat) {l : List Rat} (hl : 2 ≤ l.length) (hs : l.Pairwise (· < ·)) (hi : IntLocs l) :
    (padOdd w l).Pairwise (· < ·) ∧ 2 ≤ (padOdd w l).length ∧ IntLocs (padOdd w l) := by
  obtain ⟨hch, L, Rr, heq, _, _⟩ := padOdd_spec w l hl
  exact ⟨hch.pairwise reflRel_lt hs, by rw [heq, List.length_append, List.length_append]; omega, hch.intLocs hi⟩

theorem padLoop_mirror : ∀ (f : Nat) (l e : List Rat), l.Pairwise (· < ·) → 2 ≤ l.length → IntLocs l →
    padLoop w n f (mirror n l) e.reverse = (padLoop w n f l e).map (fun r => (mirror n r.1, r.2.reverse)) := by
  intro f
  induction f with
  | zero => intro l e _ _ _; rfl
  | succ f ih =>
    intro l e hs hl hi
    rw [padLoop, padLoop, needsMore_mirror l (List.ne_nil_of_length_pos (Nat.lt_of_lt_of_le Nat.zero_lt_two hl)) hs hi]
    split
    · obtain ⟨hs', hl', hi'⟩ := padOdd_keeps w hl hs hi
      rw [padOdd_mirror n w l hl, padEdge_reverse]
      exact ih _ _ hs' hl' hi'
    · rfl

theorem padFrom_mirror {l e : List Rat} (hs : l.Pairwise (· < ·)) (hi : IntLocs l) :
    padFrom w n (mirror n l) e.reverse = (padFrom w n l e).mirror n := by
  unfold padFrom
  rw [mirror_length]
  split
  · rfl
  · have hl2 : 2 ≤ l.length := Nat.lt_of_not_le ‹_›
    dsimp only
    generalize (if l.length < w then l.length else w) = w'
    split
    · rfl
    · obtain ⟨hs', hl', hi'⟩ := padOdd_keeps w' hl2 hs hi
      rw [padOdd_mirror n w' l hl2, padEdge_reverse, padLoop_mirror _ _ _ hs' hl' hi']
      cases padLoop w' n (n + 1) (padOdd w' l) (padEdge w' e) <;> rfl

theorem paddedExtrema_reverse' (m : Mode) :
    paddedExtrema w m false x.reverse = (paddedExtrema w m false x).mirror x.length := by
  rw [paddedExtrema_eq, paddedExtrema_eq, extrema_reverse, List.length_reverse]
  exact padFrom_mirror (sep_imp_lt (extrema_locs_sep m false x)) (intLocs_extrema m)

theorem interpEnvelope_reverse' (I : Interp) (hI : I.Reversible) (em : EMode) (hw : 1 ≤ w) :
    interpEnvelope I em w false x.reverse = (interpEnvelope I em w false x).mirror x.length := by
  have hrev := paddedExtrema_reverse' (w := w) (x := x) em.toMode
  unfold interpEnvelope
  cases hp : paddedExtrema w em.toMode false x with
  | none => rw [hrev, hp]; rfl
  | fuel => rw [hrev, hp]; rfl
  | ok l e =>
    rw [hp] at hrev
    simp only [PadResult.mirror] at hrev
    have hs := sep_imp_lt (paddedExtrema_locs_sep hp)
    have hl := paddedExtrema_lengths hp
    have hg := paddedExtrema_grid hw hp
    have hg' := paddedExtrema_grid hw hrev
    rw [List.length_reverse] at hg'
    rw [hrev]
    simp only [List.length_reverse, hg, hg']
    have henv : List.map (I.eval (mirror x.length l) e.reverse) (List.map (fun (k : Nat) => (k : Rat)) (List.range x.length))
        = (List.map (I.eval l e) (List.map (fun (k : Nat) => (k : Rat)) (List.range x.length))).reverse := by
      apply List.ext_getElem
      · simp
      · intro i h1 h2
        simp only [List.length_map, List.length_range] at h1
        simp only [List.getElem_map, List.getElem_range, List.getElem_reverse, List.length_map, List.length_range]
        have h := hI x.length l e ((x.length : Rat) - 1 - (i : Rat)) hs hl
        rwa [sub_sub_cancel, ← cast_mirror h1] at h
    rw [henv]
    simp [EnvResult.mirror]

end Extrema
