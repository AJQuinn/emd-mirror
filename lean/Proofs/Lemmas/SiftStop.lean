/- What C04 needs to state the stopping rules of `get_next_imf` by their documented ratios (the model compares
   cross-multiplied): `sumSq_nonneg`, the per-sample Rilling test `RillingExceeds`; and the spec sequence `iter`
   as the iteration of one step `meanStep`. -/
import EmdModel.Sift
import Proofs.Lemmas.SigAbs

namespace Sift

theorem sumSq_nonneg (a : Sig) : 0 ≤ Sig.sumSq a := by
  unfold Sig.sumSq Sig.sum
  induction a with
  | nil => simp
  | cons v t ih =>
    exact add_nonneg (mul_self_nonneg v) ih

/-- `abs(avg_env)/amp > sd` for one sample, in the model's cross-multiplied form
    (`avg_env = (u+l)/2`, `amp = abs(u-l)/2`) -/
def RillingExceeds (sd u l : Rat) : Prop := sd * (Rat.abs' (u - l) / 2) < Rat.abs' ((u + l) / 2)

instance (sd u l : Rat) : Decidable (RillingExceeds sd u l) := by unfold RillingExceeds; infer_instance

theorem rillingBig_eq (sd : Rat) (U L : Sig) :
    rillingBig sd U L = (List.zip U L).map fun p => decide (RillingExceeds sd p.1 p.2) := by
  rw [List.map_zip_eq_zipWith]
  rfl

def meanStep (E : Sig → Env) (s : Rat) (h : Sig) : Option Sig :=
  match E h with
  | (some U, some L) => some (Sig.sub h (Sig.smul s (Sig.mean2 U L)))
  | _ => none

theorem iter_succ_bind (E : Sig → Env) (s : Rat) (k : Nat) (x : Sig) :
    iter (fun _ => E) s (k + 1) x = (iter (fun _ => E) s k x).bind (meanStep E s) := by
  simp only [iter]
  cases iter (fun _ => E) s k x with
  | none => rfl
  | some h => rfl

end Sift
