/- The derived `chain_ind` metric (`Tracked`) and the selection (`Synced`) stay current as long as the
   metrics they are derived from are not overwritten; the rows of a filtered export. -/
import Proofs.Lemmas.ContainerInv

namespace Container

/-- the `chain_ind` metric is the projection of the current chains -/
def Tracked (s : State) : Prop :=
  ∀ sel, s.sel = some sel → sget s.metrics chainIndName = some (chainInd sel.subset sel.chain)

/-- the cycles that match the stored conditions now are exactly the selected ones -/
def Synced (F : List Char → Option Rat) (s : State) : Prop :=
  ∀ sel, s.sel = some sel → matching F s.metrics sel.conds = .ok (sel.subset.map fun j => decide (0 ≤ j))

def condNames (F : List Char → Option Rat) (conds : List Cond) : List Name :=
  conds.filterMap fun c => match parseCondition F c with | .ok r => some r.1 | .error _ => none

/-! ### chain_ind -/

theorem tracked_step (F : List Char → Option Rat) (s : State) (op : Op) (hI : Inv s) (h : Tracked s)
    (hop : chainIndName ∉ op.stores) : Tracked (step F s op).1 := by
  rcases op.pickSubset_or_writes_eq_stores with ⟨conds, rfl⟩ | ⟨hp, hw⟩
  · show Tracked (pickSubset F s conds).1
    cases hm : matching F s.metrics conds with
    | error e => simp only [pickSubset, hm]; exact h
    | ok valids =>
      rw [pickSubset_ok F hI conds valids hm]
      rintro _ ⟨⟩
      exact sget_sset_same _ _ _
  · intro sel hsel
    rw [step_sel_other F s op hp] at hsel
    rw [step_sget_other F s op _ (hw ▸ hop)]
    exact h sel hsel

/-! ### the selection -/

theorem evalCond_congr (F : List Char → Option Rat) (m m' : Store) (c : Cond)
    (h : ∀ r, parseCondition F c = .ok r → sget m' r.1 = sget m r.1) : evalCond F m' c = evalCond F m c := by
  unfold evalCond
  cases hp : parseCondition F c with
  | error e => rfl
  | ok r =>
    simp only []
    rw [h _ hp]

theorem evalConds_congr (F : List Char → Option Rat) (m m' : Store) (conds : List Cond)
    (h : ∀ n ∈ condNames F conds, sget m' n = sget m n) : evalConds F m' conds = evalConds F m conds := by
  induction conds with
  | nil => rfl
  | cons c t ih =>
    have h1 : evalCond F m' c = evalCond F m c := by
      apply evalCond_congr
      intro r hr
      apply h
      simp [condNames, hr]
    have h2 := ih fun n hn => h n (((List.sublist_cons_self c t).filterMap _).subset hn)
    simp only [evalConds, h1, h2]

theorem matching_congr (F : List Char → Option Rat) (m m' : Store) (conds : List Cond)
    (hn : ∀ n ∈ condNames F conds, sget m' n = sget m n)
    (hg : (sget m' isGoodName).map List.length = (sget m isGoodName).map List.length) :
    matching F m' conds = matching F m conds := by
  unfold matching
  rw [evalConds_congr F m m' conds hn]
  cases h1 : sget m' isGoodName <;> cases h2 : sget m isGoodName <;> simp [h1, h2] at hg ⊢
  case some.some g' g => rw [hg]

theorem matching_sset {F : List Char → Option Rat} {s : State} (hI : Inv s) {name : Name} {v : List Val}
    (hv : v.length = s.K) {conds : List Cond} (hn : name ∉ condNames F conds) {w : List Bool}
    (hm : matching F s.metrics conds = .ok w) :
    matching F (sset s.metrics name v) conds = .ok w := by
  rw [matching_congr F s.metrics (sset s.metrics name v) conds, hm]
  · intro n hnn
    exact sget_sset_other (by intro e; subst e; exact hn hnn)
  · obtain ⟨g, _, hg, _, _⟩ := matching_ok hm
    by_cases he : isGoodName = name
    · subst he
      rw [sget_sset_same, hg]
      simp [hv, hI.lens _ (sget_mem hg)]
    · rw [sget_sset_other he]

theorem synced_step (F : List Char → Option Rat) (s : State) (op : Op) (hI : Inv s) (h : Synced F s)
    (hop : ∀ sel, s.sel = some sel → ∀ n ∈ op.stores, n ∉ condNames F sel.conds)
    (hpick : ∀ conds, op = .pickSubset conds → chainIndName ∉ condNames F conds) :
    Synced F (step F s op).1 := by
  rcases op.pickSubset_or_writes_eq_stores with ⟨conds, rfl⟩ | ⟨hp, hw⟩
  · show Synced F (pickSubset F s conds).1
    cases hm : matching F s.metrics conds with
    | error e => simp only [pickSubset, hm]; exact h
    | ok valids =>
      rw [pickSubset_ok F hI conds valids hm]
      rintro _ ⟨⟩
      simp only [subsetVector, subsetFrom_support]
      exact matching_sset hI (by simp [chainInd_length, subsetFrom_length, matching_valids_length hI hm])
        (hpick conds rfl) hm
  · -- stores of the right length under names the stored conditions do not mention
    refine (step_induct F (fun t => Inv t ∧ t.sel = s.sel ∧ Synced F t) s op ⟨hI, rfl, h⟩
      (fun c _ e _ => absurd e (hp c)) ?_).2.2
    intro t n v ⟨htI, hts, ht⟩ hn hv
    refine ⟨htI.store (hv htI), hts, fun sel hsel => ?_⟩
    exact matching_sset htI (hv htI) (hop sel (hts ▸ hsel) n (hw ▸ hn)) (ht sel hsel)

/-! ### exports -/

theorem tableKeep_rows (s : State) (keep : List Bool) (hk : keep.length = s.K) (t : Table)
    (ht : tableKeep s keep = .ok t) :
    t.rows = (indicesFrom (fun b => b) 0 keep).map (fun (k : Nat) => some (k : Rat) :: rowOf s.metrics k) ∧
    t.cols.tail = s.metrics.map (·.1) := by
  unfold tableKeep at ht
  split at ht
  · cases ht
  · simp only [Except.ok.injEq] at ht
    subst ht
    refine ⟨?_, rfl⟩
    rw [indicesFrom_eq, List.positions_eq_filter, ← hk, List.range_eq_range']
    -- the two filter predicates, `keep[k]?.getD false` and `keep[k - 0]?.any id`, unfold to the same match
    rfl

end Container
