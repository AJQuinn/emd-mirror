/- Lemmas about EmdModel.Phase: the scale law of the frequency transform reduced, branch by branch, to contracts
   of the library oracles (`hlin`, `hang`, `habs`, and `henv`, which is `hEu` there: what each says of the real
   library is listed in the scale-invariance section of Proofs/C09.lean), and toy oracles (`Phase.Witness`)
   meeting those contracts, for the witnesses and examples of C09. -/
import Proofs.Lemmas.Phase

namespace Phase

abbrev smul (c : Rat) (x : List Rat) : List Rat := x.map fun v => c * v

/-- `c • a` on an amplitude column: a NaN sample (`none`) stays NaN -/
abbrev smulAmp (c : Rat) (a : List (Option Rat)) : List (Option Rat) :=
  a.map fun v => v.map fun w => c * w

variable {O : Analytic} {norm : List Rat → List Rat} {envU : List Rat → Option (List Rat)} {c : Rat} {x : List Rat}

theorem frequencyTransform_scale_of_oracle {H : List Rat → List Rat × List (Option Rat)} (halfPi twoPi sr : Rat)
    (hH : H (smul c x) = ((H x).1, smulAmp c (H x).2)) :
    frequencyTransform H halfPi twoPi sr (smul c x)
      = ((frequencyTransform H halfPi twoPi sr x).1, (frequencyTransform H halfPi twoPi sr x).2.1,
         smulAmp c (frequencyTransform H halfPi twoPi sr x).2.2) := by
  simp [frequencyTransform, hH]

theorem ampOfEnv_length (n : Nat) (e : Option (List Rat)) (h : ∀ v, e = some v → v.length = n) :
    (ampOfEnv n e).length = n := by
  cases e with
  | none => simp [ampOfEnv]
  | some v => simpa [ampOfEnv] using h v rfl

theorem ampOfEnv_scale (henv : envU (smul c x) = (envU x).map (smul c)) :
    ampOfEnv (smul c x).length (envU (smul c x)) = smulAmp c (ampOfEnv x.length (envU x)) := by
  rw [henv]
  cases envU x <;> simp [ampOfEnv, List.map_map, Function.comp_def]

theorem hilbertH_scale
    (hlin : O.hilbert (smul c x) = (O.hilbert x).map fun z => (c * z.1, c * z.2))
    (hang : ∀ z, O.angle (c * z.1, c * z.2) = O.angle z)
    (habs : ∀ z, O.abs (c * z.1, c * z.2) = c * O.abs z) :
    O.hilbertH (smul c x) = ((O.hilbertH x).1, smulAmp c (O.hilbertH x).2) := by
  simp [Analytic.hilbertH, hlin, List.map_map, Function.comp_def, hang, habs]

theorem nhtH_scale (hnorm : norm (smul c x) = norm x)
    (henv : envU (smul c x) = (envU x).map (smul c)) :
    O.nhtH norm envU (smul c x) = ((O.nhtH norm envU x).1, smulAmp c (O.nhtH norm envU x).2) := by
  simp only [Analytic.nhtH, hnorm, ampOfEnv_scale henv]

/-- the `nht` branch on a column without combined envelope, where `amplitude_normalise` returns `x` and `c • x`
    as they are (`hn`, `hnc`): the phase is then that of the raw column, so `hilbert` and `angle` enter -/
theorem nhtH_scale_raw (hn : norm x = x) (hnc : norm (smul c x) = smul c x)
    (hlin : O.hilbert (smul c x) = (O.hilbert x).map fun z => (c * z.1, c * z.2))
    (hang : ∀ z, O.angle (c * z.1, c * z.2) = O.angle z)
    (henv : envU (smul c x) = (envU x).map (smul c)) :
    O.nhtH norm envU (smul c x) = ((O.nhtH norm envU x).1, smulAmp c (O.nhtH norm envU x).2) := by
  simp only [Analytic.nhtH, hn, hnc, hlin, ampOfEnv_scale henv, List.map_map,
    Function.comp_def, hang]

theorem quadH_scale (sqrtT : List Rat → List Rat) (hnorm : norm (smul c x) = norm x)
    (henv : envU (smul c x) = (envU x).map (smul c)) :
    O.quadH norm envU sqrtT (smul c x)
      = ((O.quadH norm envU sqrtT x).1, smulAmp c (O.quadH norm envU sqrtT x).2) := by
  simp only [Analytic.quadH, hnorm, ampOfEnv_scale henv]

end Phase

/-! ### concrete oracles for witnesses and non-vacuity examples -/

namespace Phase.Witness

theorem absR_mul_pos {c : Rat} (hc : 0 < c) (a : Rat) : absR (c * a) = c * absR a := by
  simp only [absR, Rat.mul_neg_iff_of_pos_left hc, mul_ite, mul_neg]

/-- a toy analytic-signal library meeting the three contracts `hlin`, `hang`, `habs` for every `c > 0`
    (`O_hilbert_linear`, `O_angle_scale`, `O_abs_scale`) -/
def O : Analytic where
  hilbert := fun x => List.zipWith Prod.mk x x.reverse
  angle := fun z => if z.2 = 0 then 0 else 1
  abs := fun z => absR z.1 + absR z.2
  post := id

theorem O_hilbert_linear (c : Rat) (x : List Rat) :
    O.hilbert (smul c x) = (O.hilbert x).map fun z => (c * z.1, c * z.2) := by
  simp [O, smul, List.zipWith_map_left, List.zipWith_map_right, List.map_zipWith, ← List.map_reverse]

theorem O_angle_scale {c : Rat} (hc : 0 < c) (z : Rat × Rat) : O.angle (c * z.1, c * z.2) = O.angle z := by
  simp [O, ne_of_gt hc]

theorem O_abs_scale {c : Rat} (hc : 0 < c) (z : Rat × Rat) : O.abs (c * z.1, c * z.2) = c * O.abs z := by
  simp only [O, absR_mul_pos hc]; ring

/-- a positively homogeneous envelope oracle (`E_homogeneous`) -/
def E : Nat → List Rat → Option (List Rat) := fun _ y =>
  if y.length < 3 then none else some (y.map fun _ => absR (y.headD 0))

theorem E_homogeneous {c : Rat} (hc : 0 < c) (k : Nat) (y : List Rat) :
    E k (smul c y) = (E k y).map (smul c) := by
  unfold E
  by_cases h : y.length < 3
  · simp [h]
  · cases y with
    | nil => simp at h
    | cons a t =>
      have h' : ¬ t.length + 1 < 3 := by simpa using h
      simp [h', absR_mul_pos hc, List.map_map, Function.comp_def]

/-- an envelope oracle that never finds enough extrema -/
def noEnv : List Rat → Option (List Rat) := fun _ => none

/-- sqrt-table stand-in `1 − v²` (no contract on it enters the scale theorems) -/
def sq : List Rat → List Rat := fun nX => nX.map fun v => 1 - v * v

end Phase.Witness
