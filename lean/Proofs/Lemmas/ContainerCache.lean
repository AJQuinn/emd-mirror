/- The cache flag: with one value per sample, setting it before an operation (or a whole history) or after
   it gives the same states and outputs; on a short value vector the label-lookup route raises. -/
import Proofs.Lemmas.ContainerRun

namespace Container

def setCache (b : Bool) (s : State) : State := { s with cache := b }

variable {b : Bool} {s : State} {name : Name}

theorem inv_setCache (b : Bool) (h : Inv s) : Inv (setCache b s) := ⟨h.cv, h.lens, h.names, h.sel⟩

theorem addMetric_setCache (v : List Val) :
    addMetric (setCache b s) name v = (setCache b (addMetric s name v).1, (addMetric s name v).2) := by
  by_cases hv : v.length = s.K <;> simp [addMetric, setCache, hv]

theorem computeMetric_setCache (h : Inv s) (vals : List Rat) (f : List Rat → Rat) (mode : Mode)
    (hv : vals.length = s.cv.length) :
    computeMetric (setCache b s) name vals f mode =
      (setCache b (computeMetric s name vals f mode).1, (computeMetric s name vals f mode).2) := by
  rw [computeMetric_ok (inv_setCache b h) hv, computeMetric_ok h hv]
  rfl

theorem seqOps_setCache (ops : List (State → State × Except Err Out))
    (hops : ∀ o ∈ ops, ∀ s, Inv s → Inv (o s).1 ∧ o (setCache b s) = (setCache b (o s).1, (o s).2))
    (s : State) (h : Inv s) :
    seqOps (setCache b s) ops = (setCache b (seqOps s ops).1, (seqOps s ops).2) := by
  induction ops generalizing s with
  | nil => rfl
  | cons o t ih =>
    obtain ⟨hi, hc⟩ := hops o (by simp) s h
    simp only [seqOps, hc]
    cases hr : o s with
    | mk s' r =>
      rw [hr] at hi
      cases r with
      | error e => rfl
      | ok x => exact ih (fun o' ho' => hops o' (by simp [ho'])) s' hi

theorem computeChainMetric_setCache (vals : List Rat) (f : List Rat → Rat) (asInt : Bool) :
    computeChainMetric (setCache b s) name vals f asInt =
      (setCache b (computeChainMetric s name vals f asInt).1, (computeChainMetric s name vals f asInt).2) := by
  unfold computeChainMetric
  have e : (setCache b s).sel = s.sel := rfl
  rw [e]
  cases hs : s.sel with
  | none => rfl
  | some sel => exact addMetric_setCache _

theorem computePositionInChain_setCache :
    computePositionInChain (setCache b s) =
      (setCache b (computePositionInChain s).1, (computePositionInChain s).2) := by
  unfold computePositionInChain
  have e : (setCache b s).sel = s.sel := rfl
  rw [e]
  cases hs : s.sel <;> rfl

/-- the per-sample value vector handed to `compute_cycle_metric` has one value per sample (both
    metric modes: the code checks nothing, and the lookup route raises on a short vector) -/
def Op.ValsOK (n : Nat) : Op → Prop
  | .computeMetric _ vals _ _ => vals.length = n
  | _ => True

theorem step_setCache (F : List Char → Option Rat) (b : Bool) (s : State) (op : Op) (h : Inv s) (hv : op.ValsOK s.cv.length) :
    step F (setCache b s) op = (setCache b (step F s op).1, (step F s op).2) := by
  cases op with
  | computeMetric name vals f mode => exact computeMetric_setCache h vals f mode hv
  | addMetric name vals => exact addMetric_setCache _
  | addFromInt name src =>
    simp only [step, addFromInt]
    have hm : (setCache b s).metrics = s.metrics := rfl
    rw [hm]
    split
    · rfl
    · exact addMetric_setCache _
  | computeTimings =>
    simp only [step, computeTimings]
    apply seqOps_setCache _ _ s h
    intro o ho s' hs'
    simp only [List.mem_cons, List.not_mem_nil, or_false] at ho
    rcases ho with rfl | rfl | rfl
    · exact ⟨step_inv F s' (.computeMetric _ _ _ _) hs', computeMetric_setCache hs' _ _ _ (by simp [arange, setCache])⟩
    · exact ⟨step_inv F s' (.computeMetric _ _ _ _) hs', computeMetric_setCache hs' _ _ _ (by simp [arange, setCache])⟩
    · exact ⟨step_inv F s' (.computeMetric _ _ _ _) hs', computeMetric_setCache hs' _ _ _ (by simp [cvRat, setCache])⟩
  | pickSubset conds =>
    simp only [step, pickSubset]
    have e : (setCache b s).metrics = s.metrics := rfl
    rw [e]
    cases hm : matching F s.metrics conds with
    | error e => rfl
    | ok valids =>
      exact addMetric_setCache
        (s := { s with sel := some { conds, subset := subsetVector valids, chain := chainVector (subsetVector valids) } }) _
  | computeChainMetric name vals f asInt => exact computeChainMetric_setCache _ _ _
  | computeChainTimings =>
    simp only [step, computeChainTimings]
    apply seqOps_setCache _ _ s h
    intro o ho s' hs'
    simp only [List.mem_cons, List.not_mem_nil, or_false] at ho
    rcases ho with rfl | rfl | rfl | rfl | rfl
    · exact ⟨step_inv F s' (.computeChainMetric _ _ _ _) hs', computeChainMetric_setCache _ _ _⟩
    · exact ⟨step_inv F s' (.computeChainMetric _ _ _ _) hs', computeChainMetric_setCache _ _ _⟩
    · exact ⟨step_inv F s' (.computeChainMetric _ _ _ _) hs', computeChainMetric_setCache _ _ _⟩
    · exact ⟨step_inv F s' (.computeChainMetric _ _ _ _) hs', computeChainMetric_setCache _ _ _⟩
    · exact ⟨computePositionInChain_induct hs' fun _ hv => hs'.store (hv hs'), computePositionInChain_setCache⟩
  | «export» m =>
    simp only [step]
    have : exportTable F (setCache b s) m = exportTable F s m := by cases m <;> rfl
    rw [this]
    cases hm : exportTable F s m <;> rfl
  | «matching» conds =>
    simp only [step]
    have e : (setCache b s).metrics = s.metrics := rfl
    rw [e]
    cases hm : matching F s.metrics conds <;> rfl

theorem run_setCache (F : List Char → Option Rat) (b : Bool) (s : State) (ops : List Op) (h : Inv s)
    (hv : ∀ op ∈ ops, op.ValsOK s.cv.length) :
    run F (setCache b s) ops = setCache b (run F s ops) ∧ runOuts F (setCache b s) ops = runOuts F s ops := by
  induction ops generalizing s with
  | nil => exact ⟨rfl, rfl⟩
  | cons o t ih =>
    have hs := step_setCache F b s o h (hv o (by simp))
    have hcv : (step F s o).1.cv = s.cv := (step_frame F s o).1
    have := ih (step F s o).1 (step_inv F s o h) (by intro op hop; rw [hcv]; exact hv op (by simp [hop]))
    simp only [run_cons, runOuts, hs, this, and_self]

/-! ### the lookup route on a short value vector -/

theorem computeMetric_short_raises (h : Inv s) (hc : s.cache = false) (hK : 0 < s.K)
    (vals : List Rat) (f : List Rat → Rat) (hv : vals.length < s.cv.length) :
    computeMetric s name vals f .cycle = (s, .error .index) := by
  -- the last sample carries a label `l` in `0..K-1`, and has no value
  have hn : s.cv.length - 1 < s.cv.length := by omega
  have hmem : s.cv[s.cv.length - 1] ∈ s.cv := List.getElem_mem hn
  have h0 := h.cv.2 hK _ hmem
  have hlt := label_lt_of_mem_cv h.cv.1 hmem
  have : lookupStatE f s.cv vals = .error .index := by
    rw [lookupStatE_eq, if_neg]
    intro hall
    have := hall s.cv[s.cv.length - 1].toNat (by rw [List.mem_range, nLabels_eq h.cv.1]; omega) (s.cv.length - 1)
      (mem_indicesOf.mpr (by rw [Int.toNat_of_nonneg h0]; exact List.getElem?_eq_getElem hn))
    omega
  unfold computeMetric
  rw [hc]
  simp only [cycleStat, this]

end Container
