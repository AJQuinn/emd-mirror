/-
  `complete_ensemble_sift` in closed form: `stageNoise` (the parent's noise matrix at each stage: the iterated noise
  step `residualPow` on every column) and `stageCols` (the components) with `ceemd_eq_stage`; the recorded fan-outs
  `ceemdFanouts` with `getElem?_ceemdFanouts`; and when the columns of the stage matrices stay pairwise different
  (`nodup_stageNoise_all_iff`).
-/
import Proofs.Lemmas.Ensemble

namespace Ensemble
open Pool
open Sig (smul_injective)

/-! ### the stage matrices -/

def residualPow (Fn : Sig → Sig) : Nat → Sig → Sig
  | 0, ν => ν
  | k + 1, ν => residualPow Fn k (noiseResidual Fn ν)

theorem residualPow_succ' (Fn : Sig → Sig) (k : Nat) (ν : Sig) :
    residualPow Fn (k + 1) ν = noiseResidual Fn (residualPow Fn k ν) := by
  induction k generalizing ν with
  | zero => rfl
  | succ k ih => exact ih _

/-- the noise matrix the parent holds after `k` noise steps, handed to fan-out `k` of `ceemd` -/
def stageNoise (Fn : Sig → Sig) (scale : Rat) (M : List Sig) (k : Nat) : List Sig :=
  M.map fun m => residualPow Fn k (Sig.smul scale m)

theorem stageNoise_zero (Fn : Sig → Sig) (scale : Rat) (M : List Sig) :
    stageNoise Fn scale M 0 = M.map (Sig.smul scale) := rfl

theorem stageNoise_succ (Fn : Sig → Sig) (scale : Rat) (M : List Sig) (k : Nat) :
    stageNoise Fn scale M (k + 1) = (stageNoise Fn scale M k).map (noiseResidual Fn) := by
  unfold stageNoise
  rw [List.map_map]
  apply List.map_congr_left
  intro m _
  exact residualPow_succ' Fn k _

theorem length_stageNoise (Fn : Sig → Sig) (scale : Rat) (M : List Sig) (k : Nat) :
    (stageNoise Fn scale M k).length = M.length := by simp [stageNoise]

theorem stageNoise_eq_map_residualPow (Fn : Sig → Sig) (scale : Rat) (M : List Sig) (k : Nat) :
    stageNoise Fn scale M k = (M.map (Sig.smul scale)).map (residualPow Fn k) := by
  simp [stageNoise, List.map_map, Function.comp_def]

/-! ### distinct columns through the noise step -/

def InjOnCols (f : Sig → Sig) (l : List Sig) : Prop := ∀ a, a ∈ l → ∀ b, b ∈ l → f a = f b → a = b

theorem nodup_map_iff (f : Sig → Sig) (l : List Sig) : (l.map f).Nodup ↔ l.Nodup ∧ InjOnCols f l := by
  rw [List.Nodup, List.pairwise_map]
  constructor
  · intro h
    exact ⟨h.imp fun hne e => hne (congrArg f e), fun a ha b hb =>
      List.Pairwise.forall_of_forall_of_flip (R := fun a b => f a = f b → a = b) (fun _ _ _ => rfl)
        (h.imp fun hne e => absurd e hne) (h.imp fun hne e => absurd e.symm hne) ha hb⟩
  · rintro ⟨hd, hi⟩
    exact hd.imp_of_mem fun ha hb hne e => hne (hi _ ha _ hb e)

theorem nodup_stageNoise_all_iff (Fn : Sig → Sig) (scale : Rat) (M : List Sig) (hs : scale ≠ 0) :
    (∀ k, (stageNoise Fn scale M k).Nodup) ↔ M.Nodup ∧ ∀ k, InjOnCols (noiseResidual Fn) (stageNoise Fn scale M k) := by
  have h0 : (stageNoise Fn scale M 0).Nodup ↔ M.Nodup := by
    rw [stageNoise_zero, nodup_map_iff]
    exact and_iff_left fun a _ b _ h => smul_injective scale hs h
  constructor
  · intro h
    refine ⟨h0.mp (h 0), fun k => ?_⟩
    have := h (k + 1)
    rw [stageNoise_succ, nodup_map_iff] at this
    exact this.2
  · rintro ⟨hd, hi⟩ k
    induction k with
    | zero => exact h0.mpr hd
    | succ k ih =>
      rw [stageNoise_succ, nodup_map_iff]
      exact ⟨ih, hi k⟩

/-! ### non-exhausted columns

  On the real code a noise column that has run out of extrema is its own first IMF, so its residual is the
  zero column and stays zero; several exhausted columns coincide.  What holds there: the columns that are not
  (yet) exhausted stay pairwise different, provided the residual map separates the columns whose residual is
  not exhausted. -/

theorem nodup_filter_map_step (f : Sig → Sig) (live : Sig → Bool) (l : List Sig)
    (hdead : ∀ a, a ∈ l → live a = false → live (f a) = false)
    (hinj : ∀ a, a ∈ l → ∀ b, b ∈ l → live (f a) = true → f a = f b → a = b)
    (hd : (l.filter live).Nodup) : ((l.map f).filter live).Nodup := by
  rw [List.filter_map, nodup_map_iff]
  constructor
  · -- a column with a live image is live itself: these columns are among the live ones
    have : l.filter (live ∘ f) = (l.filter live).filter (live ∘ f) := by
      rw [List.filter_filter]
      exact List.filter_congr fun a ha => by cases h : live a <;> simp [hdead a ha, h]
    rw [this]
    exact List.Pairwise.filter _ hd
  · intro a ha b hb
    have ha := List.mem_filter.mp ha
    exact hinj a ha.1 b (List.mem_filter.mp hb).1 ha.2

/-! ### the fan-outs of `ceemd`, recorded

  Same recursion as `ceemdLoop` / `ceemd`, returning for every `_sift_with_noise` fan-out the residual the
  members start from and the members' trace (noise used, [first IMF]). -/

def ceemdLoopFanouts (σ : Nat → Schedule) (F Fn : Sig → Sig) (mode : Mode) (x : Sig) :
    Nat → Nat → List Sig → List Sig → List (Sig × List (Sig × List Sig))
  | 0, _, _, _ => []
  | s + 1, c, imf, noise =>
    let proto := Sig.sub x (Sig.vsum x.length imf)
    let next := ceemdImf (σ c) F mode none proto noise
    (proto, ceemdMembers (σ c) F mode none proto noise) ::
      ceemdLoopFanouts σ F Fn mode x s (c + 2) (imf ++ [next]) (ceemdNoiseStep (σ (c + 1)) Fn noise)

def ceemdFanouts (σ : Nat → Schedule) (F Fn : Sig → Sig) (mode : Mode) (scale : Rat) (M : List Sig) (x : Sig)
    (stages : Nat) : List (Sig × List (Sig × List Sig)) :=
  let noise0 := M.map (Sig.smul scale)
  let imf0 := ceemdImf (σ 0) F mode none x noise0
  (x, ceemdMembers (σ 0) F mode none x noise0) ::
    ceemdLoopFanouts σ F Fn mode x stages 2 [imf0] (ceemdNoiseStep (σ 1) Fn noise0)

/-- mean over the members of a recorded fan-out (what `ceemdImf` computes from them) -/
def fanoutMean (fo : Sig × List (Sig × List Sig)) : Sig :=
  meanOver fo.1.length (fo.2.map fun m => colOr fo.1.length m.2 0)

theorem ceemdLoop_cols_eq (σ : Nat → Schedule) (F Fn : Sig → Sig) (mode : Mode) (x : Sig) (s c : Nat)
    (imf noise : List Sig) :
    (ceemdLoop σ F Fn mode x s c imf noise).1 = imf ++ (ceemdLoopFanouts σ F Fn mode x s c imf noise).map fanoutMean := by
  induction s generalizing c imf noise with
  | zero => simp [ceemdLoop, ceemdLoopFanouts]
  | succ s ih =>
    unfold ceemdLoop ceemdLoopFanouts
    rw [ih, List.map_cons, List.append_assoc]
    rfl

theorem length_ceemdLoopFanouts (σ : Nat → Schedule) (F Fn : Sig → Sig) (mode : Mode) (x : Sig) (s c : Nat)
    (imf noise : List Sig) : (ceemdLoopFanouts σ F Fn mode x s c imf noise).length = s := by
  induction s generalizing c imf noise with
  | zero => rfl
  | succ s ih => simp [ceemdLoopFanouts, ih]

theorem ceemdFanouts_zero (σ : Nat → Schedule) (F Fn : Sig → Sig) (mode : Mode) (scale : Rat) (M : List Sig) (x : Sig)
    (stages : Nat) :
    (ceemdFanouts σ F Fn mode scale M x stages)[0]? =
      some (x, ceemdMembers (σ 0) F mode none x (stageNoise Fn scale M 0)) := rfl

/-! ### `ceemd` in closed form: `stageCols` beside `stageNoise` -/

section
variable (F Fn : Sig → Sig) (mode : Mode) (scale : Rat) (M : List Sig) (x : Sig)

/-- the first `k` components of the complete ensemble, pools removed: component `k` is the mean over the members of
    the first IMF of (input − earlier components) ± column `i` of the stage-`k` noise matrix -/
def stageCols : Nat → List Sig
  | 0 => []
  | k + 1 => stageCols k ++ [stageImf F mode none (Sig.sub x (Sig.vsum x.length (stageCols k))) (stageNoise Fn scale M k)]

theorem length_stageCols (k : Nat) : (stageCols F Fn mode scale M x k).length = k := by
  induction k with
  | zero => rfl
  | succ k ih => simp [stageCols, ih]

theorem stageCols_prefix {k n : Nat} (h : k ≤ n) :
    stageCols F Fn mode scale M x k <+: stageCols F Fn mode scale M x n := by
  induction n with
  | zero => rw [Nat.le_zero.mp h]; exact List.prefix_refl _
  | succ n ih =>
    rcases Nat.lt_or_eq_of_le h with h | rfl
    · exact (ih (by omega)).trans (List.prefix_append _ _)
    · exact List.prefix_refl _

variable {F Fn mode scale M x}

theorem take_stageCols {k n : Nat} (h : k ≤ n) :
    (stageCols F Fn mode scale M x n).take k = stageCols F Fn mode scale M x k := by
  have := List.prefix_iff_eq_take.mp (stageCols_prefix F Fn mode scale M x h)
  rw [length_stageCols] at this
  exact this.symm

theorem getElem?_stageCols {k n : Nat} (h : k < n) :
    (stageCols F Fn mode scale M x n)[k]? = some (stageImf F mode none
      (Sig.sub x (Sig.vsum x.length (stageCols F Fn mode scale M x k))) (stageNoise Fn scale M k)) := by
  obtain ⟨t, ht⟩ := stageCols_prefix F Fn mode scale M x (Nat.succ_le_of_lt h)
  rw [← ht, List.getElem?_append_left (by simp [length_stageCols]), stageCols,
    List.getElem?_append_right (by simp [length_stageCols])]
  simp [length_stageCols]

variable {σ : Nat → Schedule} {p : Nat → Nat} (hσ : ∀ c, (σ c).Valid M.length (p c))
include hσ

theorem ceemdLoop_stage (s c j : Nat) :
    ceemdLoop σ F Fn mode x s c (stageCols F Fn mode scale M x j) (stageNoise Fn scale M j)
      = (stageCols F Fn mode scale M x (j + s), stageNoise Fn scale M (j + s)) := by
  induction s generalizing c j with
  | zero => rfl
  | succ s ih =>
    have hl := length_stageNoise Fn scale M j
    rw [ceemdLoop, ceemdImf_eq _ (hl ▸ hσ c),
      ceemdNoiseStep_eq _ (hl ▸ hσ (c + 1)), ← stageNoise_succ]
    exact (ih (c + 2) (j + 1)).trans (by rw [Nat.add_right_comm, Nat.add_assoc])

theorem ceemd_eq_stage (stages : Nat) :
    ceemd σ F Fn mode scale M x stages
      = (stageCols F Fn mode scale M x (stages + 1), stageNoise Fn scale M (stages + 1)) := by
  have := ceemdLoop_stage (F := F) (Fn := Fn) (mode := mode) (scale := scale) (x := x) hσ (stages + 1) 0 0
  rw [ceemdLoop] at this
  simpa [ceemd, stageCols, stageNoise_zero, Sig.vsum, Sig.sub_zeros, Nat.add_comm] using this

theorem ceemdLoopFanouts_stage (s c j : Nat) :
    ceemdLoopFanouts σ F Fn mode x s c (stageCols F Fn mode scale M x j) (stageNoise Fn scale M j)
      = (List.range s).map fun i =>
          (Sig.sub x (Sig.vsum x.length (stageCols F Fn mode scale M x (j + i))),
           ceemdMembers (σ (c + 2 * i)) F mode none
             (Sig.sub x (Sig.vsum x.length (stageCols F Fn mode scale M x (j + i)))) (stageNoise Fn scale M (j + i))) := by
  induction s generalizing c j with
  | zero => rfl
  | succ s ih =>
    have hl := length_stageNoise Fn scale M j
    rw [ceemdLoopFanouts, ceemdImf_eq _ (hl ▸ hσ c),
      ceemdNoiseStep_eq _ (hl ▸ hσ (c + 1)), ← stageNoise_succ]
    rw [show _ ++ [_] = stageCols F Fn mode scale M x (j + 1) from rfl, ih (c + 2) (j + 1), List.range_succ_eq_map,
      List.map_cons, List.map_map]
    -- index arithmetic under the binder: `j + 1 + i = j + (i + 1)`, `c + 2 + 2 * i = c + 2 * (i + 1)`
    simp only [Function.comp_def, Nat.add_zero, Nat.mul_zero, Nat.succ_eq_add_one, Nat.mul_add, Nat.mul_one]
    simp only [Nat.add_assoc, Nat.add_comm 1, Nat.add_comm 2]

theorem ceemdFanouts_eq_stage (stages : Nat) :
    ceemdFanouts σ F Fn mode scale M x stages
      = (List.range (stages + 1)).map fun k =>
          (Sig.sub x (Sig.vsum x.length (stageCols F Fn mode scale M x k)),
           ceemdMembers (σ (2 * k)) F mode none
             (Sig.sub x (Sig.vsum x.length (stageCols F Fn mode scale M x k))) (stageNoise Fn scale M k)) := by
  have := ceemdLoopFanouts_stage (F := F) (Fn := Fn) (mode := mode) (scale := scale) (x := x) hσ (stages + 1) 0 0
  rw [ceemdLoopFanouts] at this
  simpa [ceemdFanouts, stageCols, stageNoise_zero, Sig.vsum, Sig.sub_zeros] using this

/-- fan-out `k` of a run, pools removed: the members start from the input minus the first `k` components, and
    member `i` adds column `i` of the stage-`k` matrix as it is -/
theorem getElem?_ceemdFanouts (stages : Nat) {k : Nat} (hk : k ≤ stages) :
    (ceemdFanouts σ F Fn mode scale M x stages)[k]? =
      some (Sig.sub x (Sig.vsum x.length (stageCols F Fn mode scale M x k)),
        (stageNoise Fn scale M k).map fun ν => (ν, siftWithNoise (fun y => [F y]) mode none
          (Sig.sub x (Sig.vsum x.length (stageCols F Fn mode scale M x k))) ν)) := by
  rw [ceemdFanouts_eq_stage hσ, List.getElem?_map, List.getElem?_range (Nat.lt_succ_of_le hk),
    Option.map_some, ceemdMembers_eq _ ((length_stageNoise Fn scale M k).symm ▸ hσ _)]

end

/-- a noise-only sift that returns its input as the first IMF (what `sift` does on a column without extrema)
    leaves the zero matrix after one noise step -/
theorem stageNoise_id_succ (scale : Rat) (M : List Sig) (k : Nat) :
    stageNoise (fun ν => ν) scale M (k + 1) = M.map fun m => Sig.zeros m.length := by
  induction k with
  | zero => simp [stageNoise_succ, stageNoise_zero, noiseResidual, Sig.sub_self]
  | succ k ih => rw [stageNoise_succ, ih]; simp [noiseResidual, Sig.sub_self]

/-! ### a concrete noise sift with an injective residual map (non-vacuity of the C08 hypotheses) -/

def FnHalf : Sig → Sig := fun ν => Sig.smul (1/2) ν

theorem FnHalf_residual_injective : Function.Injective (fun ν => Sig.sub ν (FnHalf ν)) := by
  have h : ∀ ν, Sig.sub ν (FnHalf ν) = Sig.smul (1/2) ν := by
    intro ν
    unfold Sig.sub FnHalf Sig.smul
    rw [List.zipWith_map_right, List.zipWith_self]
    apply List.map_congr_left
    grind
  intro a b hab
  simp only [h] at hab
  exact smul_injective (1/2) (by decide +kernel) hab

end Ensemble
