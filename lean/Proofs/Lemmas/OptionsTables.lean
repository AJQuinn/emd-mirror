/-
  The signature tables of the option model: the two shapes a signature can have (`StageSig`: a stage's own options plus
  pass-through parameters; `VariantSig`: data, other keywords, option dictionaries) with what each shape gives for ANY
  table, and the finite facts about the concrete tables of `EmdModel.Options`, decided once.
-/
import Proofs.Lemmas.OptionsBind

namespace Options
open Config Config.Assoc

/-- the value a caller supplied for a dictionary parameter (`None`, the default of every such parameter, when absent) -/
def kwArg (kw : Assoc) (name : String) : Tree := (kw.lookup name.toList).getD Tree.none

theorem kwArg_of_arg {sig : Assoc} {name : String} (h : sig.lookup name.toList = some none') (kw : Assoc) :
    arg (resolve sig kw) name = kwArg kw name := arg_resolve h kw

/-- the contents of an option dictionary (`None` and anything that is not a dict: nothing) -/
def dictOf : Tree → Assoc
  | .dict a => a
  | _ => .nil

/-! ### the stages' own options -/

def gniOwn : Assoc := mk [("env_step_size", i 1), ("max_iters", i 1000), ("energy_thresh", none'),
  ("stop_method", s "sd"), ("sd_thresh", f0_1), ("rilling_thresh", rillingDefault)]
def ieOwn : Assoc := mk [("interp_method", s "splrep"), ("ret_extrema", b false)]
def gpeOwn : Assoc := mk [("pad_width", i 2), ("parabolic_extrema", b false),
  ("loc_pad_opts", none'), ("mag_pad_opts", none')]

-- what `get_config` stores under `envelope_opts` and `extrema_opts` (`configTables` in ComposeDefaults.lean)
def envDefaults : Assoc := mk [("interp_method", s "splrep")]
def extDefaults : Assoc := mk [("pad_width", i 2), ("parabolic_extrema", b false),
  ("mag_pad_opts", Config.magPadOpts), ("loc_pad_opts", Config.locPadOpts)]

/-- the value `get_padded_extrema` really uses for an option (`if not loc_pad_opts: …literal…`) -/
def effVal (p : Key) (v : Tree) : Tree :=
  if p = "loc_pad_opts".toList then normPad gpeLocLiteral v
  else if p = "mag_pad_opts".toList then normPad gpeMagLiteral v
  else v

/-! ### vocabulary: acceptable option dictionaries -/

/-- IMF-extraction options: known names of `get_next_imf` (not its two pass-through dictionaries), each once -/
def GoodImf (a : Assoc) : Prop := (∀ p ∈ a.keys, p ∈ gniOwn.keys) ∧ noDup a.keys = true
/-- envelope options: known names of `interp_envelope` (not `mode`, `extrema_opts`), each once, a valid interpolation method -/
def GoodEnv (a : Assoc) : Prop :=
  (∀ p ∈ a.keys, p ∈ ieOwn.keys) ∧ noDup a.keys = true ∧ ∀ v, a.lookup "interp_method".toList = some v → okMethod v = true
/-- extrema options: known names of `get_padded_extrema` (not `mode`), each once -/
def GoodExt (a : Assoc) : Prop := (∀ p ∈ a.keys, p ∈ gpeOwn.keys) ∧ noDup a.keys = true

/-- known names, each once: an option dictionary against a stage's own options (`GoodImf = Good gniOwn.keys`,
    `GoodExt = Good gpeOwn.keys`), a keyword dictionary against the parameters it may bind -/
def Good (ks : List Key) (a : Assoc) : Prop := (∀ p ∈ a.keys, p ∈ ks) ∧ noDup a.keys = true

theorem good_iff {ks : List Key} {a : Assoc} : Good ks a ↔ (∀ p ∈ a.keys, p ∈ ks) ∧ a.keys.Nodup := by
  rw [Good, noDup_iff]

theorem good_nil (ks : List Key) : Good ks .nil := ⟨by simp [keys], rfl⟩

theorem good_self {own : Assoc} (h : own.keys.Nodup) : Good own.keys own := good_iff.2 ⟨fun _ h => h, h⟩

theorem Good.insert {ks : List Key} {a : Assoc} (h : Good ks a) {p : Key} (hp : p ∈ ks) (v : Tree) :
    Good ks (a.insert p v) :=
  good_iff.2 ⟨fun q hq => ((mem_keys_insert p v q a).1 hq).elim (h.1 q) fun e => e ▸ hp,
    nodup_keys_insert p v a (good_iff.1 h).2⟩

theorem good_assignA {ks : List Key} : ∀ {a d : Assoc}, Good ks d → (∀ p ∈ a.keys, p ∈ ks) → Good ks (assignA d a)
  | .nil, _, hd, _ => hd
  | .cons p v r, d, hd, ha =>
    good_assignA (a := r) (d := d.insert p v) (hd.insert (ha p List.mem_cons_self) v) fun q hq =>
      ha q (List.mem_cons_of_mem p hq)

theorem good_append {ks ks' : List Key} {a b : Assoc} (ha : Good ks a) (hb : Good ks' b)
    (hd : ∀ p ∈ ks, ∀ q ∈ ks', p ≠ q) : Good (ks ++ ks') (a.append b) := by
  rw [good_iff] at ha hb
  rw [good_iff, keys_append]
  exact ⟨fun p hp => (List.mem_append.1 hp).elim (fun h => List.mem_append_left _ (ha.1 p h))
      fun h => List.mem_append_right _ (hb.1 p h),
    List.nodup_append.2 ⟨ha.2, hb.2, fun p hp q hq => hd p (ha.1 p hp) q (hb.1 q hq)⟩⟩

theorem good_of_sublist {ks : List Key} {a : Assoc} (h : a.keys.Sublist ks) (hn : ks.Nodup) : Good ks a :=
  good_iff.2 ⟨fun _ hp => h.subset hp, h.nodup hn⟩

theorem goodEnv_iff (a : Assoc) :
    GoodEnv a ↔ Good ieOwn.keys a ∧ ∀ v, a.lookup "interp_method".toList = some v → okMethod v = true := by
  simp only [GoodEnv, Good, and_assoc]

theorem goodEnv_nil : GoodEnv .nil := (goodEnv_iff _).2 ⟨good_nil _, by simp [Assoc.lookup]⟩

/-! ### the shape of a stage signature -/

/-- `sig` is a stage signature: the stage's own options `own` (with the same defaults) and the pass-through
    parameters `pass`, every parameter with a default -/
def StageSig (sig own : Assoc) (pass : List Key) : Prop :=
  sig.keys.Perm (own.keys ++ pass) ∧ sig.keys.Nodup ∧ (∀ p ∈ sig.keys, (sig.lookup p).all (fun d => !isRequired d) = true) ∧
    ∀ p ∈ own.keys, sig.lookup p = own.lookup p

instance (sig own : Assoc) (pass : List Key) : Decidable (StageSig sig own pass) := by
  unfold StageSig; infer_instance

namespace StageSig
variable {sig own : Assoc} {pass : List Key}

theorem mem_keys (h : StageSig sig own pass) (q : Key) : q ∈ sig.keys ↔ q ∈ own.keys ∨ q ∈ pass := by
  rw [h.1.mem_iff, List.mem_append]

theorem nodup_append (h : StageSig sig own pass) : (own.keys ++ pass).Nodup := h.1.nodup_iff.1 h.2.1

theorem pass_ne_own (h : StageSig sig own pass) {q p : Key} (hq : q ∈ pass) (hp : p ∈ own.keys) : q ≠ p :=
  ((List.nodup_append.1 h.nodup_append).2.2 p hp q hq).symm

theorem own_lookup (h : StageSig sig own pass) {p : Key} {d : Tree} (hp : own.lookup p = some d) :
    sig.lookup p = some d := by
  rw [h.2.2.2 p (mem_keys_of_lookup hp), hp]

theorem lookup_resolve_own (h : StageSig sig own pass) (kw : Assoc) {p : Key} {d : Tree} (hp : own.lookup p = some d) :
    (resolve sig kw).lookup p = some ((kw.lookup p).getD d) := by
  rw [lookup_resolve, h.own_lookup hp]; rfl

theorem lookup_resolve_pass (h : StageSig sig own pass) {kw : Assoc} {q : Key} {v : Tree} (hq : q ∈ pass)
    (hk : kw.lookup q = some v) : (resolve sig kw).lookup q = some v :=
  lookup_resolve_of_kw ((h.mem_keys q).2 (Or.inr hq)) hk

/-- `f(pass-through…, **okw)` binds iff the dictionary `okw` holds known names, each once -/
theorem validCall_iff (h : StageSig sig own pass) {kw okw : Assoc} (hk : kw.keys.Perm (pass ++ okw.keys)) :
    validCall sig kw = true ↔ Good own.keys okw := by
  have hd := List.nodup_append.1 h.nodup_append
  rw [Options.validCall_iff, noMissing_of h.2.1 fun p hp => Or.inr (h.2.2.1 p hp), good_iff, hk.nodup_iff,
    List.nodup_append]
  constructor
  · rintro ⟨hs, ⟨_, hn, hdis⟩, _⟩
    refine ⟨fun p hp => ?_, hn⟩
    rcases (h.mem_keys p).1 (hs p (hk.mem_iff.2 (List.mem_append_right _ hp))) with ho | hpass
    · exact ho
    · exact absurd rfl (hdis p hpass p hp)
  · rintro ⟨hs, hn⟩
    refine ⟨fun q hq => (h.mem_keys q).2 ?_, ⟨hd.2.1, hn, fun a ha b hb => h.pass_ne_own ha (hs b hb)⟩, rfl⟩
    rcases List.mem_append.1 (hk.mem_iff.1 hq) with hq | hq
    · exact Or.inr hq
    · exact Or.inl (hs q hq)

end StageSig

/-! ### the shape of an entry point's signature -/

def optKeys : List Key := ["imf_opts".toList, "envelope_opts".toList, "extrema_opts".toList]

/-- `sig` is the signature of an entry point: positional data parameters `pos`, its other keywords `top` (all with
    defaults), then the option dictionaries `opts` (default `None`) -/
def VariantSig (sig : Assoc) (pos top opts : List Key) : Prop :=
  sig.keys = pos ++ (top ++ opts) ∧ sig.keys.Nodup ∧ (∀ p ∈ opts, sig.lookup p = some none') ∧
    ∀ p ∈ top, (sig.lookup p).all (fun d => !isRequired d) = true

instance (sig : Assoc) (pos top opts : List Key) : Decidable (VariantSig sig pos top opts) := by
  unfold VariantSig; infer_instance

namespace VariantSig
variable {sig : Assoc} {pos top opts : List Key}

theorem bound_keys (h : VariantSig sig pos top opts) {vals : List Tree} {bnd : Assoc} (hv : vals.length = pos.length)
    (hz : zipPos sig vals = some bnd) : bnd.keys = pos := by
  rw [zipPos_keys hz, h.1, hv, List.take_left']; rfl

theorem disjoint (h : VariantSig sig pos top opts) {p q : Key} (hp : p ∈ pos) (hq : q ∈ top ++ opts) : p ≠ q :=
  (List.nodup_append.1 (h.1 ▸ h.2.1)).2.2 p hp q hq

theorem nodup_top_opts (h : VariantSig sig pos top opts) : (top ++ opts).Nodup :=
  (List.nodup_append.1 (h.1 ▸ h.2.1)).2.1

theorem nodup_opts (h : VariantSig sig pos top opts) : opts.Nodup := (List.nodup_append.1 h.nodup_top_opts).2.1

theorem top_ne_opt (h : VariantSig sig pos top opts) {p q : Key} (hp : p ∈ top) (hq : q ∈ opts) : p ≠ q :=
  (List.nodup_append.1 h.nodup_top_opts).2.2 p hp q hq

theorem arg_opt (h : VariantSig sig pos top opts) {vals : List Tree} {kw a : Assoc} (hv : vals.length = pos.length)
    (hc : call sig vals kw = .ok a) {name : String} (hn : name.toList ∈ opts) : arg a name = kwArg kw name := by
  obtain ⟨bnd, hz, _, rfl⟩ := call_eq_ok.1 hc
  have hnot : name.toList ∉ bnd.keys := by
    rw [h.bound_keys hv hz]
    exact fun hp => h.disjoint hp (List.mem_append_right _ hn) rfl
  rw [kwArg_of_arg (h.2.2.1 _ hn), kwArg, kwArg, lookup_append, lookup_eq_none.2 hnot]; rfl

theorem call_ok (h : VariantSig sig pos top opts) {vals : List Tree} {kw : Assoc} (hv : vals.length = pos.length)
    (hk : Good (top ++ opts) kw) : ∃ a, call sig vals kw = .ok a := by
  obtain ⟨bnd, hz⟩ := zipPos_eq_some (vals := vals) (sig := sig) (by rw [h.1, hv]; simp)
  have hkeys : (bnd.append kw).keys = pos ++ kw.keys := by rw [keys_append, h.bound_keys hv hz]
  have hnd := List.nodup_append.1 (h.1 ▸ h.2.1)
  obtain ⟨hk, hn⟩ := good_iff.1 hk
  refine ⟨_, call_eq_ok.2 ⟨bnd, hz, (validCall_iff _ _).2 ⟨?_, ?_, noMissing_of h.2.1 fun p hp => ?_⟩, rfl⟩⟩
  · rw [hkeys, h.1]
    exact fun q hq => (List.mem_append.1 hq).elim (List.mem_append_left _) fun hq => List.mem_append_right _ (hk q hq)
  · rw [hkeys]
    exact List.nodup_append.2 ⟨hnd.1, hn, fun a ha b hb => h.disjoint ha (hk b hb)⟩
  · rw [hkeys]
    rw [h.1] at hp
    rcases List.mem_append.1 hp with hp | hp
    · exact Or.inl (List.mem_append_left _ hp)
    · rcases List.mem_append.1 hp with hp | hp
      · exact Or.inr (h.2.2.2 p hp)
      · exact Or.inr (by rw [h.2.2.1 p hp]; rfl)

end VariantSig

/-- the other keywords a variant accepts (its signature without the data and the three option dictionaries) -/
def topKeys : Variant → List Key
  | .sift => ["sift_thresh".toList, "max_imfs".toList, "verbose".toList]
  | .ensemble => ["nensembles".toList, "ensemble_noise".toList, "noise_mode".toList, "nprocesses".toList,
      "sift_thresh".toList, "max_imfs".toList, "verbose".toList]
  | .complete => ["nensembles".toList, "ensemble_noise".toList, "noise_mode".toList, "nprocesses".toList,
      "sift_thresh".toList, "max_imfs".toList, "verbose".toList]
  | .mask => ["mask_amp".toList, "mask_amp_mode".toList, "mask_freqs".toList, "mask_step_factor".toList,
      "ret_mask_freq".toList, "max_imfs".toList, "sift_thresh".toList, "nphases".toList, "nprocesses".toList, "verbose".toList]
  | .maskSecond => ["mask_amp".toList, "mask_amp_mode".toList, "mask_freqs".toList, "mask_step_factor".toList,
      "ret_mask_freq".toList, "max_imfs".toList, "sift_thresh".toList, "nphases".toList, "nprocesses".toList, "verbose".toList]
  | .nextImfMask => ["nphases".toList, "nprocesses".toList]
  | .maskFreqs => ["first_mask_mode".toList]
  | .nextImf => gniOwn.keys
  | .second v => topKeys v

/-- the signature a variant binds its keywords against, the data it passes positionally (values and parameter
    names), the option dictionaries it takes -/
def sigOf : Variant → Assoc
  | .sift => siftSig | .ensemble => ensSig | .complete => ensSig | .mask => maskSig | .maskSecond => maskSig
  | .nextImfMask => gnimSig | .maskFreqs => gmfSig | .nextImf => gniSig | .second v => sigOf v
def posOf : Variant → List Tree
  | .nextImfMask => [data, data] | .second v => posOf v | _ => []
def posKeys : Variant → List Key
  | .nextImfMask => ["z".toList, "amp".toList] | .second v => posKeys v | _ => []
def optsOf (v : Variant) : List Key :=
  if baseVariant v = .nextImf then ["envelope_opts".toList, "extrema_opts".toList] else optKeys

/-! ### the concrete tables

  The facts below are finite facts about the tables of `EmdModel.Options` and are decided by the kernel.  Each table
  theorem is ONE conjunction because the kernel decodes every key string (`"name".toList`) it meets afresh in every
  declaration, at a price per character far above that of any other step: a conjunction pays for each key once.
  (`Config.configKeys`, `configTables` in ComposeDefaults.lean and `innerCalls` in OptionsVariants.lean are the others.)
  For the same reason no other proof of the `Options*` files evaluates a key: disequalities and memberships come from
  these theorems by unification, and goals that hold key literals are rewritten (`rw`, `simp only`), never handed to
  `simp`/`decide`/`rfl`, which would decode them (`String.reduceToList`), nor closed by `exact`/`▸` across two DIFFERENT
  lists of keys, which makes the kernel compare the lists key by key. -/

theorem stageTables :
    (StageSig gniSig gniOwn ["envelope_opts".toList, "extrema_opts".toList] ∧
      StageSig ieSig ieOwn ["mode".toList, "extrema_opts".toList] ∧ StageSig gpeSig gpeOwn ["mode".toList]) ∧
    (gniSig.lookup "envelope_opts".toList = some none' ∧ gniSig.lookup "extrema_opts".toList = some none' ∧
      ieOwn.lookup "interp_method".toList = some (s "splrep") ∧ okMethod (s "splrep") = true ∧
      gpeMode (s "upper") = .ok (s "peaks") ∧ gpeMode (s "lower") = .ok (s "troughs")) ∧
    -- the special-case literals written inside the functions and the defaults `get_config` stores only repeat
    -- signature defaults (the two pad dictionaries: after the in-function fallback) ...
    (resolve gniOwn (dictOf siftImfLiteral) = gniOwn ∧ resolve gpeOwn (dictOf ieExtremaLiteral) = gpeOwn ∧
      resolve ieOwn envDefaults = ieOwn ∧ gpeEffective (resolve gpeOwn extDefaults) = gpeEffective gpeOwn) ∧
    -- ... and hold known names, each once
    (Good gniOwn.keys (dictOf siftImfLiteral) ∧ Good gpeOwn.keys (dictOf ieExtremaLiteral) ∧
      Good ieOwn.keys envDefaults ∧ Good gpeOwn.keys extDefaults) ∧
    (gniOwn.lookup "stop_method".toList = some (s "sd") ∧ gniOwn.lookup "sd_thresh".toList = some f0_1 ∧
      gniOwn.lookup "rilling_thresh".toList = some rillingDefault ∧ gniOwn.lookup "env_step_size".toList = some (i 1) ∧
      gniOwn.lookup "max_iters".toList = some (i 1000) ∧ gniOwn.lookup "energy_thresh".toList = some none') ∧
    ∀ p ∈ gniOwn.keys, p ∉ optKeys := by
  unfold Good
  decide +kernel

theorem gniStage : StageSig gniSig gniOwn ["envelope_opts".toList, "extrema_opts".toList] := stageTables.1.1
theorem ieStage : StageSig ieSig ieOwn ["mode".toList, "extrema_opts".toList] := stageTables.1.2.1
theorem gpeStage : StageSig gpeSig gpeOwn ["mode".toList] := stageTables.1.2.2
theorem gniSig_env : gniSig.lookup "envelope_opts".toList = some none' := stageTables.2.1.1
theorem gniSig_ext : gniSig.lookup "extrema_opts".toList = some none' := stageTables.2.1.2.1
theorem ieOwn_method : ieOwn.lookup "interp_method".toList = some (s "splrep") := stageTables.2.1.2.2.1
theorem okMethod_splrep : okMethod (s "splrep") = true := stageTables.2.1.2.2.2.1
theorem gpeMode_upper : gpeMode (s "upper") = .ok (s "peaks") := stageTables.2.1.2.2.2.2.1
theorem gpeMode_lower : gpeMode (s "lower") = .ok (s "troughs") := stageTables.2.1.2.2.2.2.2
theorem siftLiteral_resolve : resolve gniOwn (dictOf siftImfLiteral) = gniOwn := stageTables.2.2.1.1
theorem ieLiteral_resolve : resolve gpeOwn (dictOf ieExtremaLiteral) = gpeOwn := stageTables.2.2.1.2.1
theorem envDefaults_resolve : resolve ieOwn envDefaults = ieOwn := stageTables.2.2.1.2.2.1
theorem extDefaults_effective : gpeEffective (resolve gpeOwn extDefaults) = gpeEffective gpeOwn :=
  stageTables.2.2.1.2.2.2
theorem good_siftLiteral : Good gniOwn.keys (dictOf siftImfLiteral) := stageTables.2.2.2.1.1
theorem good_ieLiteral : Good gpeOwn.keys (dictOf ieExtremaLiteral) := stageTables.2.2.2.1.2.1
theorem good_envDefaults : Good ieOwn.keys envDefaults := stageTables.2.2.2.1.2.2.1
theorem good_extDefaults : Good gpeOwn.keys extDefaults := stageTables.2.2.2.1.2.2.2
theorem gniOwn_defaults :
    gniOwn.lookup "stop_method".toList = some (s "sd") ∧ gniOwn.lookup "sd_thresh".toList = some f0_1 ∧
    gniOwn.lookup "rilling_thresh".toList = some rillingDefault ∧ gniOwn.lookup "env_step_size".toList = some (i 1) ∧
    gniOwn.lookup "max_iters".toList = some (i 1000) ∧ gniOwn.lookup "energy_thresh".toList = some none' :=
  stageTables.2.2.2.2.1
theorem own_not_opt : ∀ p ∈ gniOwn.keys, p ∉ optKeys := stageTables.2.2.2.2.2

theorem variantTables :
    VariantSig siftSig [] (topKeys .sift) optKeys ∧ VariantSig ensSig [] (topKeys .ensemble) optKeys ∧
    VariantSig maskSig [] (topKeys .mask) optKeys ∧
    VariantSig gnimSig ["z".toList, "amp".toList] (topKeys .nextImfMask) optKeys ∧
    VariantSig gmfSig [] (topKeys .maskFreqs) optKeys ∧
    VariantSig gniSig [] (topKeys .nextImf) ["envelope_opts".toList, "extrema_opts".toList] ∧
    ensSig.lookup "noise_mode".toList = some (s "single") ∧ okNoiseMode (s "single") = true ∧
    "noise_mode".toList ∈ topKeys .ensemble ∧ "max_imfs".toList ∈ topKeys .mask ∧ "mask_freqs".toList ∈ topKeys .mask ∧
    (∀ sg ∈ [gniSig, ieSig, gpeSig, siftSig, swnSig, ensSig, gnimSig, gmfSig, maskSig], noDup sg.keys = true) ∧
    "max_imfs".toList ≠ "mask_freqs".toList := by
  decide +kernel

theorem sigOf_spec : ∀ v, VariantSig (sigOf v) (posKeys v) (topKeys v) (optsOf v) ∧ (posOf v).length = (posKeys v).length
  | .sift => ⟨variantTables.1, rfl⟩
  | .ensemble => ⟨variantTables.2.1, rfl⟩
  | .complete => ⟨variantTables.2.1, rfl⟩
  | .mask => ⟨variantTables.2.2.1, rfl⟩
  | .maskSecond => ⟨variantTables.2.2.1, rfl⟩
  | .nextImfMask => ⟨variantTables.2.2.2.1, rfl⟩
  | .maskFreqs => ⟨variantTables.2.2.2.2.1, rfl⟩
  | .nextImf => ⟨variantTables.2.2.2.2.2.1, rfl⟩
  | .second v => sigOf_spec v

theorem ensSig_noise : ensSig.lookup "noise_mode".toList = some (s "single") := variantTables.2.2.2.2.2.2.1
theorem okNoiseMode_single : okNoiseMode (s "single") = true := variantTables.2.2.2.2.2.2.2.1
theorem noise_mem_top : "noise_mode".toList ∈ topKeys .ensemble := variantTables.2.2.2.2.2.2.2.2.1
theorem maxImfs_mem_top : "max_imfs".toList ∈ topKeys .mask := variantTables.2.2.2.2.2.2.2.2.2.1
theorem maskFreqs_mem_top : "mask_freqs".toList ∈ topKeys .mask := variantTables.2.2.2.2.2.2.2.2.2.2.1
theorem noDup_sigs : ∀ sg ∈ [gniSig, ieSig, gpeSig, siftSig, swnSig, ensSig, gnimSig, gmfSig, maskSig],
    noDup sg.keys = true := variantTables.2.2.2.2.2.2.2.2.2.2.2.1
theorem maxImfs_ne_maskFreqs : "max_imfs".toList ≠ "mask_freqs".toList := variantTables.2.2.2.2.2.2.2.2.2.2.2.2

/-! ### memberships and disequalities of the option keys; the effective pad values -/

theorem imf_mem : "imf_opts".toList ∈ optKeys := List.mem_cons_self
theorem env_mem : "envelope_opts".toList ∈ optKeys := List.mem_cons_of_mem _ List.mem_cons_self
theorem ext_mem : "extrema_opts".toList ∈ optKeys := List.mem_cons_of_mem _ (List.mem_cons_of_mem _ List.mem_cons_self)

theorem ne_optKeys {p : Key} (h : p ∉ optKeys) :
    p ≠ "imf_opts".toList ∧ p ≠ "envelope_opts".toList ∧ p ≠ "extrema_opts".toList :=
  ⟨fun e => h (e ▸ imf_mem), fun e => h (e ▸ env_mem), fun e => h (e ▸ ext_mem)⟩

theorem optKeys_nodup : optKeys.Nodup := variantTables.1.nodup_opts

theorem optKeys_ne : "imf_opts".toList ≠ "envelope_opts".toList ∧ "imf_opts".toList ≠ "extrema_opts".toList ∧
    "envelope_opts".toList ≠ "extrema_opts".toList := ne_of_nodup_triple optKeys_nodup

theorem effVal_of_not_pad {p : Key} (h : p ≠ "loc_pad_opts".toList ∧ p ≠ "mag_pad_opts".toList) (v : Tree) :
    effVal p v = v := by
  rw [effVal, if_neg h.1, if_neg h.2]

theorem lookup_gpeEffective (p : Key) : ∀ a : Assoc, (gpeEffective a).lookup p = (a.lookup p).map (effVal p)
  | .nil => rfl
  | .cons q v r => by
    have step : gpeEffective (.cons q v r) = .cons q (effVal q v) (gpeEffective r) := by
      rw [gpeEffective, effVal]
      split
      · rfl
      · split <;> rfl
    rw [step]
    by_cases hq : q = p
    · subst hq; rw [lookup_cons_self, lookup_cons_self]; rfl
    · rw [lookup_cons_ne hq, lookup_cons_ne hq, lookup_gpeEffective p r]

theorem extDefaults_agree {p : Key} {d : Tree} (h : gpeOwn.lookup p = some d) :
    effVal p ((extDefaults.lookup p).getD d) = effVal p d := by
  have := congrArg (Assoc.lookup p) extDefaults_effective
  rw [lookup_gpeEffective, lookup_gpeEffective, lookup_resolve, h] at this
  simpa using this

end Options
