/-
  Cross-model consistency: the container model (C15) and the index-map model (C16) each have their own
  `get_subset_vector` / `get_chain_vector`.  They are the same functions, so what C16 proves about subset
  and chain vectors (rank, maximal runs, round trips, projections) applies to the vectors in the container state.
-/
import Proofs.Lemmas.ContainerSlices
import Proofs.Lemmas.MapsCtor

namespace ComposeCycles

theorem subsetFrom_agree (c : Nat) (v : List Bool) : Container.subsetFrom c v = Maps.subsetFrom c v := by
  induction v generalizing c with
  | nil => rfl
  | cons b t ih => cases b <;> simp [Container.subsetFrom, Maps.subsetFrom, ih]

theorem subsetVector_agree (v : List Bool) : Container.subsetVector v = Maps.subsetVector v :=
  subsetFrom_agree 0 v

theorem selected_agree (sv : List Int) : Container.selected sv = Maps.selected sv := by
  rw [Container.selected, Container.indicesFrom_eq, Maps.selected, Maps.selectedFrom_eq]

/-- the hypotheses keep the Maps loop out of its defensive third branch (difference ≤ 0), which the container
    loop does not have; the two loops take `prev` and `count` in opposite orders -/
theorem chainFrom_agree (count prev : Nat) (l : List Nat)
    (hs : l.Pairwise (· < ·)) (hp : ∀ i ∈ l, prev < i) :
    (Container.chainFrom prev count l).map (fun (n : Nat) => (n : Int)) = Maps.chainFrom count prev l := by
  induction l generalizing count prev with
  | nil => rfl
  | cons i t ih =>
    obtain ⟨ht, hs'⟩ := List.pairwise_cons.mp hs
    rw [Maps.chainFrom_cons (hp i (by simp)), Container.chainFrom, ← ih _ i hs' ht]
    by_cases h : i = prev + 1 <;> simp [h]

/-- no hypothesis on `sv`: the selected positions are always increasing -/
theorem chainVector_agree (sv : List Int) :
    (Container.chainVector sv).map (fun (n : Nat) => (n : Int)) = Maps.chainVector sv := by
  unfold Container.chainVector Maps.chainVector
  rw [selected_agree]
  have hs := Maps.selected_sorted sv
  unfold Maps.selected at hs ⊢
  cases hsel : Maps.selectedFrom 0 sv with
  | nil => rfl
  | cons i t =>
    rw [hsel] at hs
    have hs' := List.pairwise_cons.mp hs
    simp only [Container.chainOfSel, List.map_cons]
    congr 1
    exact chainFrom_agree 0 i t hs'.2 hs'.1

theorem chainVector_getElem? {sv : List Int} {a c : Nat} (h : (Container.chainVector sv)[a]? = some c) :
    (Maps.chainVector sv)[a]? = some (c : Int) := by
  rw [← chainVector_agree, List.getElem?_map, h]; rfl

end ComposeCycles
