/-
  The scale law of the ensemble sifts: everything the ensemble does after the noise amplitude `std x · level` has
  been formed commutes with multiplying signal, noise and sift by a constant (`ensembleSift_scale`, `stageNoise_scale`,
  `stageCols_scale`).
-/
import Proofs.Lemmas.EnsembleDistinct

namespace Ensemble
open Pool
open Sig (smul_add smul_sub smul_zeros vsum_smul smul_smul map_div_smul)

theorem colOr_map_smul (c : Rat) (n : Nat) (r : List Sig) (j : Nat) :
    colOr n (r.map (Sig.smul c)) j = Sig.smul c (colOr n r j) := by
  unfold colOr
  rw [List.getElem?_map]
  cases r[j]? with
  | none => simp [smul_zeros]
  | some v => rfl

theorem half_smul (c : Rat) (a : Sig) : half (Sig.smul c a) = Sig.smul c (half a) := map_div_smul c 2 a

theorem flipMean_map_smul (c : Rat) (n : Nat) (a b : List Sig) :
    flipMean n (a.map (Sig.smul c)) (b.map (Sig.smul c)) = (flipMean n a b).map (Sig.smul c) := by
  unfold flipMean
  rw [List.length_map, List.length_map, List.map_map]
  apply List.map_congr_left
  intro j _
  simp only [Function.comp]
  rw [colOr_map_smul, colOr_map_smul, smul_add, half_smul]

theorem maxWidth_map_smul (c : Rat) (members : List (List Sig)) :
    maxWidth (members.map (List.map (Sig.smul c))) = maxWidth members := by
  rw [maxWidth_eq, maxWidth_eq, List.map_map]
  exact congrArg (fun f => (members.map f).foldl max 0) (funext fun m => List.length_map _)

theorem ensembleMean_map_smul (c : Rat) (n : Nat) (members : List (List Sig)) :
    ensembleMean n (members.map (List.map (Sig.smul c))) = (ensembleMean n members).map (Sig.smul c) := by
  unfold ensembleMean
  rw [maxWidth_map_smul, List.map_map]
  apply List.map_congr_left
  intro j _
  simp only [Function.comp, List.map_map]
  rw [← meanOver_smul, List.map_map]
  congr 1
  exact List.map_congr_left fun r _ => colOr_map_smul c n r j

theorem siftWithNoise_scale_none (S S' : Sig → List Sig) (c : Rat)
    (hS : ∀ y, S' (Sig.smul c y) = (S y).map (Sig.smul c)) (mode : Mode) (x ν : Sig) :
    siftWithNoise S' mode none (Sig.smul c x) (Sig.smul c ν) = (siftWithNoise S mode none x ν).map (Sig.smul c) := by
  cases mode with
  | single =>
    simp only [siftWithNoise]
    rw [smul_add, hS]
  | flip =>
    simp only [siftWithNoise]
    rw [smul_add, smul_sub, hS, hS, Sig.length_smul, flipMean_map_smul]

theorem siftWithNoise_scale (S S' : Sig → List Sig) (c : Rat) (hS : ∀ y, S' (Sig.smul c y) = (S y).map (Sig.smul c))
    (mode : Mode) (s : Rat) (x ν : Sig) :
    siftWithNoise S' mode (some (c * s)) (Sig.smul c x) ν = (siftWithNoise S mode (some s) x ν).map (Sig.smul c) := by
  rw [siftWithNoise_some, siftWithNoise_some, ← smul_smul]
  exact siftWithNoise_scale_none S S' c hS mode x _

theorem ensembleSift_scale {ρ : Type} (σ : Schedule) (p : Nat) (draw : ρ → Sig × ρ) (g : ρ) (S S' : Sig → List Sig) (c : Rat)
    (hS : ∀ y, S' (Sig.smul c y) = (S y).map (Sig.smul c)) (mode : Mode) (N : Nat) (s : Rat) (x : Sig)
    (hσ : σ.Valid N p) :
    ensembleSift σ draw g S' mode N (c * s) (Sig.smul c x) = (ensembleSift σ draw g S mode N s x).map (Sig.smul c) := by
  rw [ensembleSift_eq hσ, ensembleSift_eq hσ,
    Sig.length_smul, ← ensembleMean_map_smul, List.map_map]
  congr 1
  exact List.map_congr_left fun i _ => siftWithNoise_scale S S' c hS mode s x _

/-! ### complete ensemble -/

theorem stageImf_scale (F : Sig → Sig) (c : Rat) (hF : ∀ y, F (Sig.smul c y) = Sig.smul c (F y)) (mode : Mode)
    (proto : Sig) (noise : List Sig) :
    stageImf F mode none (Sig.smul c proto) (noise.map (Sig.smul c)) = Sig.smul c (stageImf F mode none proto noise) := by
  unfold stageImf
  rw [Sig.length_smul, ← meanOver_smul, List.map_map, List.map_map]
  congr 1
  apply List.map_congr_left
  intro ν _
  simp only [Function.comp]
  rw [siftWithNoise_scale_none (fun y => [F y]) (fun y => [F y]) c (fun y => by simp [hF]) mode proto ν, colOr_map_smul]

theorem noiseResidual_scale (Fn : Sig → Sig) (c : Rat) (hFn : ∀ y, Fn (Sig.smul c y) = Sig.smul c (Fn y)) (ν : Sig) :
    noiseResidual Fn (Sig.smul c ν) = Sig.smul c (noiseResidual Fn ν) := by
  unfold noiseResidual
  rw [hFn, smul_sub]

section
variable {F Fn : Sig → Sig} {mode : Mode} {M : List Sig} {x : Sig} {c : Rat}
  (hF : ∀ y, F (Sig.smul c y) = Sig.smul c (F y)) (hFn : ∀ y, Fn (Sig.smul c y) = Sig.smul c (Fn y))
include hFn

theorem stageNoise_scale (s : Rat) (k : Nat) :
    stageNoise Fn (c * s) M k = (stageNoise Fn s M k).map (Sig.smul c) := by
  induction k with
  | zero => simp [stageNoise_zero, smul_smul]
  | succ k ih =>
    rw [stageNoise_succ, stageNoise_succ, ih, List.map_map, List.map_map]
    exact List.map_congr_left fun ν _ => noiseResidual_scale Fn c hFn ν

include hF
theorem stageCols_scale (s : Rat) (k : Nat) :
    stageCols F Fn mode (c * s) M (Sig.smul c x) k = (stageCols F Fn mode s M x k).map (Sig.smul c) := by
  induction k with
  | zero => rfl
  | succ k ih =>
    rw [stageCols, stageCols, ih, stageNoise_scale hFn, Sig.length_smul, vsum_smul, smul_sub, stageImf_scale F c hF]
    simp
end

end Ensemble
