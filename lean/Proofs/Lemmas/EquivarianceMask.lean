/- The masked sift with ratio amplitudes under rescaling by `c ≠ 0`.  First the phase grid: the masks of the documented
   waveform are closed under the half-turn when the number of phases is even (`unitOf_shiftClosed`).  Then one masked
   extraction when the scaled call's masks are `c` times the original ones up to a permutation of the phases
   (`getNextImfMask_transform`), the layers `ComposeMask.maskM` (`maskM_smul`) and, through the scale law of `peelLoop`,
   `maskSift`, with that permutation as a parameter (identity for `c > 0`, the half-turn for `c < 0`). -/
import Proofs.Lemmas.EquivarianceSift
import Proofs.Lemmas.ComposeMask

namespace Mask
open Pool
open Sig (smul_add smul_sub smul_smul abs'_of_pos abs'_of_neg vsum_perm)
open Ensemble (meanOver_smul)

/-! ### vocabulary -/

/-- the single-IMF extraction of `c • y` is `c` times that of `y`, same continue flag -/
def XSmul (c : Rat) (X X' : Sig → Sig × Bool) : Prop := ∀ y, X' (Sig.smul c y) = (Sig.smul c (X y).1, (X y).2)

/-- oracle contract on `np.std` (validated on every run: `std_abs_homogeneous`) -/
def StdAbsHom (c : Rat) (std : Sig → Rat) : Prop := ∀ y, std (Sig.smul c y) = Rat.abs' c * std y

/-- the phase set of `p` masks is closed under the shift by π: mask `i + p/2` is the negated mask `i` -/
def ShiftClosed (unit : Rat → Nat → Nat → Sig) (p : Nat) : Prop :=
  ∀ f i, i < p → unit f p ((i + p / 2) % p) = Sig.neg (unit f p i)

/-! ### the phase grid -/

theorem maskPhase_add (p i j : Nat) : maskPhase p (i + j) = maskPhase p i + maskPhase p j := by
  rw [maskPhase, maskPhase, maskPhase, Nat.cast_add, add_div]

/-- half a turn further in a grid of `h + h` phases: index `i + h` below `h`, index `i - h` from `h` on -/
theorem maskPhase_halfTurn (h i : Nat) (hi : i < h + h) :
    maskPhase (h + h) ((i + h) % (h + h)) = maskPhase (h + h) i + 1 / 2 ∨
    maskPhase (h + h) ((i + h) % (h + h)) + 1 / 2 = maskPhase (h + h) i := by
  have hne : (h : Rat) ≠ 0 := Nat.cast_ne_zero.mpr (by omega)
  have half : maskPhase (h + h) h = 1 / 2 := by
    rw [maskPhase, Nat.cast_add, ← two_mul, div_mul_cancel_right₀ hne, one_div]
  by_cases hlt : i < h
  · left
    rw [Nat.mod_eq_of_lt (by omega), maskPhase_add, half]
  · right
    obtain ⟨j, rfl⟩ : ∃ j, i = h + j := ⟨i - h, by omega⟩
    rw [show h + j + h = j + (h + h) by omega, Nat.add_mod_right, Nat.mod_eq_of_lt (by omega), maskPhase_add, half,
      add_comm]

/-- The waveform's phase set is closed under the half-turn when the number of phases is even — from the single
    oracle fact `cos(2π(x + 1/2)) = −cos(2πx)`: phase `i + p/2 (mod p)` is `i/p + 1/2` or `i/p − 1/2` of a turn. -/
theorem unitOf_shiftClosed (cosTurn : Rat → Rat) (hc : ∀ x, cosTurn (x + 1 / 2) = - cosTurn x) (n p : Nat)
    (heven : p % 2 = 0) : ShiftClosed (unitOf cosTurn n) p := by
  intro f i hi
  obtain ⟨h, rfl⟩ : ∃ h, p = h + h := ⟨p / 2, by omega⟩
  rw [show (h + h) / 2 = h by omega]
  unfold unitOf Sig.neg
  rw [List.map_map]
  refine List.map_congr_left fun t _ => ?_
  rcases maskPhase_halfTurn h i hi with e | e
  · rw [Function.comp, e, ← add_assoc, hc]
  · rw [Function.comp, ← e, ← add_assoc, hc, neg_neg]

theorem maskPhase_grid (p : Nat) (hp : 0 < p) :
    maskPhase p 0 = 0 ∧ (∀ i, maskPhase p (i + 1) - maskPhase p i = 1 / (p : Rat)) ∧
    ∀ i, i < p → 0 ≤ maskPhase p i ∧ maskPhase p i < 1 := by
  have hpos : (0 : Rat) < (p : Rat) := by exact_mod_cast hp
  refine ⟨by simp [maskPhase], fun i => ?_, fun i hi => ⟨?_, ?_⟩⟩
  · rw [maskPhase_add, add_sub_cancel_left, maskPhase, Nat.cast_one]
  · unfold maskPhase; exact div_nonneg (by exact_mod_cast Nat.zero_le i) (le_of_lt hpos)
  · unfold maskPhase; rw [div_lt_one hpos]; exact_mod_cast hi

/-- a square wave with the half-turn antisymmetry of the cosine (witness for the oracle hypothesis) -/
def sqTurn : Rat → Rat := fun x => if (2 * x).floor % 2 = 0 then 1 else -1

theorem sqTurn_half (x : Rat) : sqTurn (x + 1 / 2) = - sqTurn x := by
  have h : (2 * (x + 1 / 2)).floor = (2 * x).floor + 1 := by
    rw [mul_add, mul_one_div_cancel two_ne_zero, Rat.floor_add_one]
  unfold sqTurn
  rw [h]
  rcases Int.emod_two_eq_zero_or_one (2 * x).floor with h0 | h1
  · rw [if_neg (show ¬((2 * x).floor + 1) % 2 = 0 by omega), if_pos h0]
  · rw [if_pos (show ((2 * x).floor + 1) % 2 = 0 by omega), if_neg (show ¬(2 * x).floor % 2 = 0 by omega), neg_neg]

/-! ### averaging -/

theorem meanOver_perm (n : Nat) {l₁ l₂ : List Sig} (h : l₁.Perm l₂) : Ensemble.meanOver n l₁ = Ensemble.meanOver n l₂ := by
  unfold Ensemble.meanOver
  rw [vsum_perm n h, h.length_eq]

theorem shift_perm (h : Nat) : ((List.range (h + h)).map fun i => (i + h) % (h + h)).Perm (List.range (h + h)) := by
  rw [List.range_add, List.map_append, List.map_map]
  have e1 : (List.range h).map (fun i => (i + h) % (h + h)) = (List.range h).map (fun x => h + x) := by
    apply List.map_congr_left; intro i hi
    have := List.mem_range.mp hi
    rw [Nat.mod_eq_of_lt (by omega)]; omega
  have e2 : (List.range h).map ((fun i => (i + h) % (h + h)) ∘ fun x => h + x) = List.range h := by
    conv_rhs => rw [← List.map_id (List.range h)]
    apply List.map_congr_left; intro i hi
    have := List.mem_range.mp hi
    simp only [Function.comp, id]
    have : h + i + h = i + (h + h) := by omega
    rw [this, Nat.add_mod_right, Nat.mod_eq_of_lt (by omega)]
  rw [e1, e2]
  exact List.perm_append_comm

/-! ### one masked extraction -/

variable {c : Rat} {X X' : Sig → Sig × Bool} {unit : Rat → Nat → Nat → Sig} {std : Sig → Rat} {cfg : Cfg} {x : Sig}

/-- If the masks of the scaled call are `c` times the masks of the original call up to a permutation `π` of the
    phase index, the masked extraction of `c • x` is `c` times that of `x`. -/
theorem getNextImfMask_transform (hX : XSmul c X X') {m m' : Nat → Sig} (p : Nat)
    (π : Nat → Nat) (hπ : ((List.range p).map π).Perm (List.range p))
    (hm : ∀ i, i < p → m' i = Sig.smul c (m (π i))) :
    getNextImfMask X' m' p (Sig.smul c x) = (Sig.smul c (getNextImfMask X m p x).1, (getNextImfMask X m p x).2) := by
  rw [getNextImfMask_eq, getNextImfMask_eq]
  have hterm : ∀ i, i ∈ List.range p → X' (Sig.add (Sig.smul c x) (m' i)) =
      (Sig.smul c (X (Sig.add x (m (π i)))).1, (X (Sig.add x (m (π i)))).2) := by
    intro i hi
    rw [hm i (List.mem_range.mp hi), smul_add, hX]
  refine Prod.ext ?_ ?_
  · show phaseAverage X' m' p (Sig.smul c x) = Sig.smul c (phaseAverage X m p x)
    unfold phaseAverage
    have e : ((List.range p).map fun i => Sig.sub (X' (Sig.add (Sig.smul c x) (m' i))).1 (m' i))
        = (((List.range p).map π).map fun j => Sig.sub (X (Sig.add x (m j))).1 (m j)).map (Sig.smul c) := by
      rw [List.map_map, List.map_map]
      apply List.map_congr_left; intro i hi
      simp only [Function.comp]
      rw [hterm i hi, hm i (List.mem_range.mp hi), smul_sub]
    rw [e, meanOver_smul, Sig.length_smul, meanOver_perm x.length (hπ.map _)]
  · show ((List.range p).any fun i => (X' (Sig.add (Sig.smul c x) (m' i))).2) = (List.range p).any fun i => (X (Sig.add x (m i))).2
    have e : ((List.range p).any fun i => (X' (Sig.add (Sig.smul c x) (m' i))).2)
        = ((List.range p).map π).any fun j => (X (Sig.add x (m j))).2 := by
      rw [List.any_map]
      apply List.any_congr_mem
      intro i hi
      simp only [Function.comp]
      rw [hterm i hi]
    rw [e]
    exact hπ.any_eq

theorem layerMask_pos (hc : 0 < c) (f A : Rat) (p i : Nat) :
    layerMask unit f (Rat.abs' c * A) p i = Sig.smul c (layerMask unit f A p i) := by
  unfold layerMask
  rw [smul_smul, abs'_of_pos c hc]

theorem layerMask_neg (hc : c < 0) (p : Nat) (hu : ShiftClosed unit p)
    (f A : Rat) (i : Nat) (hi : i < p) :
    layerMask unit f (Rat.abs' c * A) p i = Sig.smul c (layerMask unit f A p ((i + p / 2) % p)) := by
  unfold layerMask
  rw [hu f i hi, smul_smul, abs'_of_neg c hc]
  simp only [Sig.smul, Sig.neg, List.map_map]
  apply List.map_congr_left; intro v _
  simp only [Function.comp]; ring

/-! ### the loop -/

/-- the options of the scaled call: `sift_thresh` times `|c|`, everything else unchanged -/
def scaleCfg (c : Rat) (cfg : Cfg) : Cfg := { cfg with thresh := Rat.abs' c * cfg.thresh }

@[simp] theorem scaleCfg_p (c : Rat) (cfg : Cfg) : (scaleCfg c cfg).p = cfg.p := rfl
@[simp] theorem scaleCfg_amp (c : Rat) (cfg : Cfg) : (scaleCfg c cfg).amp = cfg.amp := rfl
@[simp] theorem scaleCfg_mode (c : Rat) (cfg : Cfg) : (scaleCfg c cfg).mode = cfg.mode := rfl
@[simp] theorem scaleCfg_thresh (c : Rat) (cfg : Cfg) : (scaleCfg c cfg).thresh = Rat.abs' c * cfg.thresh := rfl

theorem sdFor_smul (hstd : StdAbsHom c std) (mode : AmpMode) (hmode : mode ≠ .abs) (cols : List Sig) :
    sdFor std mode (Sig.smul c x) (cols.map (Sig.smul c)).getLast? = Rat.abs' c * sdFor std mode x cols.getLast? := by
  rw [List.getLast?_map]
  cases mode with
  | abs => exact absurd rfl hmode
  | ratioSig => simp [sdFor, hstd x]
  | ratioImf =>
    cases cols.getLast? with
    | none => simp [sdFor, hstd x]
    | some v => simp [sdFor, hstd v]

open ComposeMask (maskM) in
/-- one layer, on one worker: the layers of the scaled run are the scaled layers -/
theorem maskM_smul (hX : XSmul c X X') (hstd : StdAbsHom c std) (hmode : cfg.mode ≠ .abs)
    (π : Nat → Nat) (hπ : ((List.range cfg.p).map π).Perm (List.range cfg.p))
    (hmask : ∀ f A i, i < cfg.p → layerMask unit f (Rat.abs' c * A) cfg.p i = Sig.smul c (layerMask unit f A cfg.p (π i)))
    (freqs : List Rat) :
    Sift.PeelSmul c (maskM (fun _ => Schedule.roundRobin cfg.p 1) X unit std cfg x freqs)
      (maskM (fun _ => Schedule.roundRobin cfg.p 1) X' unit std (scaleCfg c cfg) (Sig.smul c x) freqs) := by
  intro cols proto
  simp only [maskM, List.length_map, scaleCfg_p, scaleCfg_amp, scaleCfg_mode, sdFor_smul hstd cfg.mode hmode]
  cases ampAt cfg.amp cols.length with
  | none => rfl
  | some a =>
    cases freqs[cols.length]? with
    | none => rfl
    | some f =>
      by_cases hp : cfg.p = 0
      · simp only [hp, if_true]; rfl
      · simp only [hp, if_false, Option.map_some]
        rw [show a * (Rat.abs' c * sdFor std cfg.mode x cols.getLast?) = Rat.abs' c * (a * sdFor std cfg.mode x cols.getLast?)
          by ring]
        exact congrArg some (getNextImfMask_transform hX cfg.p π hπ fun i hi => hmask f _ i hi)

/-- any schedule; `π` is the phase permutation supplied by `hmask` (identity for `c > 0`, the half-turn for `c < 0`) -/
theorem maskSift_smul (hc : c ≠ 0) (σ : Nat → Schedule) (nproc : Nat) (hX : XSmul c X X')
    (hstd : StdAbsHom c std) (hmode : cfg.mode ≠ .abs) (hσ : ∀ k, (σ k).Valid cfg.p nproc)
    (π : Nat → Nat) (hπ : ((List.range cfg.p).map π).Perm (List.range cfg.p))
    (hmask : ∀ f A i, i < cfg.p → layerMask unit f (Rat.abs' c * A) cfg.p i = Sig.smul c (layerMask unit f A cfg.p (π i)))
    (src : FreqSrc) (cap : Nat) :
    maskSift σ X' unit std (scaleCfg c cfg) src cap (Sig.smul c x)
      = (maskSift σ X unit std cfg src cap x).map fun r => (r.1.map (Sig.smul c), r.2) := by
  rw [ComposeMask.maskSift_eq (cfg := scaleCfg c cfg) hσ, ComposeMask.maskSift_eq hσ]
  -- the run of the Sift model over the scaled layers is the scaled run; reading back keeps the columns or the error
  have := Sift.peelLoop_smul hc _ _ (maskM_smul (x := x) hX hstd hmode π hπ hmask (maskFreqs src cap).1)
    cfg.thresh (some (Sift.effCap cap (ComposeMask.nfOf src))) x (maskFreqs src cap).1.length [] x
  simp only [Sift.maskSift, scaleCfg_p, scaleCfg_thresh]
  rw [List.map_nil] at this
  rw [this]
  generalize Sift.peelLoop _ cfg.thresh _ x _ [] x = r
  obtain ⟨out, _ | _ | _⟩ := r <;> simp [ComposeMask.readBack, Except.map]

end Mask
