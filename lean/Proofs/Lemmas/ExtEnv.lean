/- The envelopes of the Extrema model as the envelope oracle of the Sift model's `get_next_imf` (`extEnv`): what the
   pipeline theorems of C01, C02 and C07 instantiate the abstract oracle with. -/
import Proofs.Lemmas.Sift
import Proofs.Lemmas.ExtremaEnv

namespace Sift

open Extrema in
def EnvResult.toOpt : Extrema.EnvResult → Option Sig
  | .ok env _ _ => some env
  | _ => none

/-- `interp_envelope(h, 'upper')`, `interp_envelope(h, 'lower')` of the Extrema model (None ↦ none) -/
def extEnv (I : Extrema.Interp) (w : Nat) (parab : Bool) : Sig → Env := fun h =>
  (EnvResult.toOpt (Extrema.interpEnvelope I .upper w parab h), EnvResult.toOpt (Extrema.interpEnvelope I .lower w parab h))

theorem toOpt_eq_some {r : Extrema.EnvResult} {env : Sig} (h : EnvResult.toOpt r = some env) :
    ∃ l e, r = .ok env l e := by
  cases r <;> cases h
  exact ⟨_, _, rfl⟩

theorem extEnv_len (I : Extrema.Interp) (w : Nat) (parab : Bool) : EnvLen (fun _ => extEnv I w parab) := by
  intro _ h U L hE
  obtain ⟨hU, hL⟩ := Prod.mk.inj hE
  obtain ⟨_, _, hU⟩ := toOpt_eq_some hU
  obtain ⟨_, _, hL⟩ := toOpt_eq_some hL
  exact ⟨(Extrema.interpEnvelope_ok I _ hU).2.2, (Extrema.interpEnvelope_ok I _ hL).2.2⟩

end Sift
