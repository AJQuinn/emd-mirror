/- Single-IMF extraction of EmdModel.Sift (C04): the specification `Spec` of the `while` loop and `run_eq_iff`
   (the loop's outcome is the one that meets it); what a returned pair says about the run (`imf_inv`), the
   continue flag for every option record (`flag_iff_energy'`), lengths. -/
import EmdModel.Sift
import Proofs.Lemmas.Sig

namespace Sift

@[simp] theorem length_neg (a : Sig) : (Sig.neg a).length = a.length := Sig.length_neg a

/-! ### the declarative specification of one extraction -/

/-- on iterate `k` the `while` loop of `get_next_imf` (iteration `niters = k + 1`) goes round: both
    `interp_envelope` calls return and `stop` is False -/
def Continues (E : Nat → Sig → Env) (o : ImfOpts) (x : Sig) (k : Nat) : Prop :=
  ∃ h U L, iter E o.step k x = some h ∧ E k h = (some U, some L) ∧
    stopTest o.stop (k + 1) o.maxIters h (Sig.sub h (Sig.mean2 U L)) U L = false

/-- on iterate `k` the loop is left through `if stop:` with `c = x1 = proto_imf - avg`: the FULL envelope mean is
    removed, not `env_step_size*avg` -/
def Fires (E : Nat → Sig → Env) (o : ImfOpts) (x : Sig) (k : Nat) (c : Sig) : Prop :=
  ∃ h U L, iter E o.step k x = some h ∧ E k h = (some U, some L) ∧
    stopTest o.stop (k + 1) o.maxIters h (Sig.sub h (Sig.mean2 U L)) U L = true ∧
    c = Sig.sub h (Sig.mean2 U L)

/-- on iterate `k` the loop is left through `if upper is None or lower is None:`, with that iterate `h` as it is -/
def Vanishes (E : Nat → Sig → Env) (o : ImfOpts) (x : Sig) (k : Nat) (h : Sig) : Prop :=
  iter E o.step k x = some h ∧ ((E k h).1 = none ∨ (E k h).2 = none)

/-- What each way of leaving the loop means, in terms of the spec sequence `iter`:
    the exit index is the LEAST index at which the rule fires / an envelope is missing. -/
def Spec (E : Nat → Sig → Env) (o : ImfOpts) (x : Sig) : Outcome → Prop
  | .stopped k c => k < budget o ∧ (∀ j, j < k → Continues E o x j) ∧ Fires E o x k c
  | .noExtrema k h => k < budget o ∧ (∀ j, j < k → Continues E o x j) ∧ Vanishes E o x k h
  | .noConverge => ∀ j, j < budget o → Continues E o x j

/-- the oracle hypothesis of the length theorems: an envelope that `interp_envelope(X, …)` returns has `X.shape[0]`
    samples (it raises `Envelope length does not match input data` otherwise) -/
def EnvLen (E : Nat → Sig → Env) : Prop :=
  ∀ k h U L, E k h = (some U, some L) → U.length = h.length ∧ L.length = h.length

variable {E : Nat → Sig → Env} {D : Sig → Sig → Rat} {o : ImfOpts} {x : Sig}

theorem iter_zero (E : Nat → Sig → Env) (s : Rat) (x : Sig) : iter E s 0 x = some x := rfl

theorem iter_step {s : Rat} {k : Nat} {h U L : Sig}
    (hk : iter E s k x = some h) (he : E k h = (some U, some L)) :
    iter E s (k + 1) x = some (Sig.sub h (Sig.smul s (Sig.mean2 U L))) := by
  simp [iter, hk, he]

theorem iter_stuck (E : Nat → Sig → Env) (s : Rat) (x : Sig) (k : Nat) (h : Sig)
    (hk : iter E s k x = some h) (he : (E k h).1 = none ∨ (E k h).2 = none) :
    iter E s (k + 1) x = none := by
  simp only [iter, hk]
  split
  · next U L heq => rw [heq] at he; simp at he
  · rfl

theorem iter_length (hE : EnvLen E) (s : Rat) :
    ∀ k h, iter E s k x = some h → h.length = x.length := by
  intro k
  induction k with
  | zero => intro h hk; cases hk; rfl
  | succ k ih =>
    intro h hk
    simp only [iter] at hk
    split at hk
    · cases hk
    · next g hg =>
      split at hk
      · next U L he =>
        cases hk
        obtain ⟨hu, hl⟩ := hE k g U L he
        have := ih g hg
        simp [hu, hl, this]
      · cases hk

theorem loop_spec :
    ∀ (fuel k : Nat) (h : Sig), iter E o.step k x = some h → (∀ j, j < k → Continues E o x j) →
      k + fuel = budget o → Spec E o x (loop E o fuel k h) := by
  intro fuel
  induction fuel with
  | zero => intro k h _ hc hb j hj; exact hc j (Nat.lt_of_lt_of_eq hj hb.symm)
  | succ fuel ih =>
    intro k h hk hc hb
    have hkb : k < budget o := by omega
    unfold loop
    split
    · next U L he =>
      dsimp only
      split
      · next hs => exact ⟨hkb, hc, h, U, L, hk, he, hs, rfl⟩
      · next hs =>
        refine ih (k + 1) _ (iter_step hk he) (fun j hj => ?_) (by omega)
        rcases Nat.lt_succ_iff_lt_or_eq.mp hj with hjk | rfl
        · exact hc j hjk
        · exact ⟨h, U, L, hk, he, Bool.not_eq_true _ ▸ hs⟩
    · next hne =>
      refine ⟨hkb, hc, hk, ?_⟩
      match he : E k h with
      | (none, _) => exact .inl rfl
      | (some _, none) => exact .inr rfl
      | (some U, some L) => exact (hne U L he).elim

theorem continues_not_fires {k : Nat} {c : Sig}
    (h1 : Continues E o x k) (h2 : Fires E o x k c) : False := by
  obtain ⟨h, U, L, a1, a2, a3⟩ := h1
  obtain ⟨h', U', L', b1, b2, b3, _⟩ := h2
  rw [a1] at b1; cases b1
  rw [a2] at b2; cases b2
  rw [a3] at b3; cases b3

theorem continues_not_vanishes {k : Nat} {g : Sig}
    (h1 : Continues E o x k) (h2 : Vanishes E o x k g) : False := by
  obtain ⟨h, U, L, a1, a2, _⟩ := h1
  obtain ⟨b1, b2⟩ := h2
  rw [a1] at b1; cases b1
  rw [a2] at b2; simp at b2

theorem fires_not_vanishes {k : Nat} {c g : Sig}
    (h1 : Fires E o x k c) (h2 : Vanishes E o x k g) : False := by
  obtain ⟨h, U, L, a1, a2, _, _⟩ := h1
  obtain ⟨b1, b2⟩ := h2
  rw [a1] at b1; cases b1
  rw [a2] at b2; simp at b2

/-- `o` and `o'` may differ in the stopping rule and the limit: these enter the returned component only through the
    exit index -/
theorem fires_unique {o' : ImfOpts} {k : Nat} {c c' : Sig}
    (hs : o.step = o'.step) (h1 : Fires E o x k c) (h2 : Fires E o' x k c') : c = c' := by
  obtain ⟨h, U, L, a1, a2, _, a4⟩ := h1
  obtain ⟨h', U', L', b1, b2, _, b4⟩ := h2
  rw [hs, b1] at a1; cases a1
  rw [a2] at b2; cases b2
  rw [a4, b4]

theorem exit_index_unique {k k' : Nat}
    (hc : ∀ j, j < k → Continues E o x j) (hk : ¬ Continues E o x k)
    (hc' : ∀ j, j < k' → Continues E o x j) (hk' : ¬ Continues E o x k') : k = k' := by
  rcases Nat.lt_trichotomy k k' with h | h | h
  · exact absurd (hc' k h) hk
  · exact h
  · exact absurd (hc k' h) hk'

theorem spec_det {r r' : Outcome}
    (h : Spec E o x r) (h' : Spec E o x r') : r = r' := by
  cases r with
  | stopped k c =>
    obtain ⟨hb, hc, hf⟩ := h
    have hk : ¬ Continues E o x k := fun hk => continues_not_fires hk hf
    cases r' with
    | stopped k' c' =>
      obtain rfl := exit_index_unique hc hk h'.2.1 fun hk' => continues_not_fires hk' h'.2.2
      rw [fires_unique rfl hf h'.2.2]
    | noExtrema k' g =>
      obtain rfl := exit_index_unique hc hk h'.2.1 fun hk' => continues_not_vanishes hk' h'.2.2
      exact (fires_not_vanishes hf h'.2.2).elim
    | noConverge => exact (hk (h' k hb)).elim
  | noExtrema k g =>
    obtain ⟨hb, hc, hv⟩ := h
    have hk : ¬ Continues E o x k := fun hk => continues_not_vanishes hk hv
    cases r' with
    | stopped k' c' =>
      obtain rfl := exit_index_unique hc hk h'.2.1 fun hk' => continues_not_fires hk' h'.2.2
      exact (fires_not_vanishes h'.2.2 hv).elim
    | noExtrema k' g' =>
      obtain rfl := exit_index_unique hc hk h'.2.1 fun hk' => continues_not_vanishes hk' h'.2.2
      -- both are the iterate `k`
      rw [Option.some.inj (hv.1.symm.trans h'.2.2.1)]
    | noConverge => exact (hk (h' k hb)).elim
  | noConverge =>
    cases r' with
    | stopped k' c' => exact (continues_not_fires (h k' h'.1) h'.2.2).elim
    | noExtrema k' g' => exact (continues_not_vanishes (h k' h'.1) h'.2.2).elim
    | noConverge => rfl

theorem run_eq_iff {r : Outcome} : run E o x = r ↔ Spec E o x r :=
  have hrun : Spec E o x (run E o x) :=
    loop_spec (budget o) 0 x rfl (fun j hj => absurd hj (Nat.not_lt_zero j)) (Nat.zero_add _)
  ⟨fun h => h ▸ hrun, spec_det hrun⟩

/-! ### from the loop's outcome to the returned pair -/

/-- the energy rule fires on the extraction of `c` from `p`:
    `energy_thresh` is set and `_energy_difference(p, p - c) > energy_thresh` -/
def EnergyFires (D : Sig → Sig → Rat) (o : ImfOpts) (p c : Sig) : Prop :=
  ∃ t, o.energyThresh = some t ∧ t < D p (Sig.sub p c)

theorem energyFires_none {p c : Sig} (he : o.energyThresh = none) :
    ¬ EnergyFires D o p c := by
  rintro ⟨t, ht, _⟩; rw [he] at ht; cases ht

theorem energyFlag_false_iff' {c : Sig} {f : Bool} :
    energyFlag D o x c f = false ↔ f = false ∨ EnergyFires D o x c := by
  unfold energyFlag EnergyFires
  cases he : o.energyThresh with
  | none => simp
  | some t =>
    simp only [Bool.and_eq_false_iff, Bool.not_eq_false', decide_eq_true_eq, Option.some.injEq, exists_eq_left']

theorem imf_inv {c : Sig} {f : Bool}
    (h : getNextImfIx E D o x = .imf c f) :
    ∃ k, k < budget o ∧ (∀ j, j < k → Continues E o x j) ∧
      ((Fires E o x k c ∧ f = energyFlag D o x c true) ∨
        (Vanishes E o x k c ∧ f = energyFlag D o x c (k != 0))) := by
  unfold getNextImfIx at h
  cases hr : run E o x with
  | stopped k c' =>
    obtain ⟨hb, hc, hf⟩ := run_eq_iff.mp hr
    rw [hr] at h; cases h
    exact ⟨k, hb, hc, Or.inl ⟨hf, rfl⟩⟩
  | noExtrema k g =>
    obtain ⟨hb, hc, hv⟩ := run_eq_iff.mp hr
    rw [hr] at h; cases h
    exact ⟨k, hb, hc, Or.inr ⟨hv, rfl⟩⟩
  | noConverge => rw [hr] at h; cases h

theorem flag_iff_energy' {c : Sig} {f : Bool}
    (h : getNextImfIx E D o x = .imf c f) :
    f = false ↔ (c = x ∧ ((E 0 x).1 = none ∨ (E 0 x).2 = none)) ∨ EnergyFires D o x c := by
  obtain ⟨k, _, hc, hk⟩ := imf_inv h
  -- an input without envelopes satisfies `Vanishes … 0 x`, so the exit index is 0
  have h0 : (E 0 x).1 = none ∨ (E 0 x).2 = none → k = 0 := fun hn =>
    Nat.eq_zero_of_not_pos fun hpos => continues_not_vanishes (hc 0 hpos) ⟨rfl, hn⟩
  rcases hk with ⟨hf, rfl⟩ | ⟨⟨hi, hn⟩, rfl⟩
  · have : ¬ (c = x ∧ ((E 0 x).1 = none ∨ (E 0 x).2 = none)) := fun ⟨_, hn⟩ => by
      obtain rfl := h0 hn; exact fires_not_vanishes hf ⟨rfl, hn⟩
    simp [energyFlag_false_iff', this]
  · have : k = 0 ↔ c = x ∧ ((E 0 x).1 = none ∨ (E 0 x).2 = none) :=
      ⟨by rintro rfl; cases hi; exact ⟨rfl, hn⟩, fun ⟨_, hn⟩ => h0 hn⟩
    simp [energyFlag_false_iff', this]

theorem flag_false_unmodified {c : Sig}
    (he : o.energyThresh = none) (h : getNextImfIx E D o x = .imf c false) :
    c = x ∧ ((E 0 x).1 = none ∨ (E 0 x).2 = none) :=
  ((flag_iff_energy' h).mp rfl).resolve_right (energyFires_none he)

theorem imf_length (hE : EnvLen E) {c : Sig} {f : Bool} (h : getNextImfIx E D o x = .imf c f) :
    c.length = x.length := by
  obtain ⟨k, _, _, hfv⟩ := imf_inv h
  rcases hfv with ⟨⟨g, U, L, h1, h2, _, h4⟩, _⟩ | ⟨⟨h1, _⟩, _⟩
  · have hg := iter_length hE o.step k g h1
    obtain ⟨hu, hl⟩ := hE k g U L h2
    subst h4
    simp [hu, hl, hg]
  · exact iter_length hE o.step k c h1

end Sift
