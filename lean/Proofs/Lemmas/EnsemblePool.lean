/- The worker-pool model (EmdModel.Ensemble, namespace Pool): what `starmap` returns under a schedule.
   One theorem, `runPoolFork_eq`, for jobs with forked worker state; a pure job is the case without state. -/
import EmdModel.Ensemble

namespace Pool
variable {S α β : Type}

/-- private states of the workers after the listed jobs have run, in that order (the state `exec` threads through) -/
def stateAfter (job : S → α → β × S) (args : List α) (worker : Nat → Nat) : (Nat → S) → List Nat → (Nat → S)
  | st, [] => st
  | st, j :: rest =>
    match args[j]? with
    | none => stateAfter job args worker st rest
    | some a => stateAfter job args worker (upd st (worker j) (job (st (worker j)) a).2) rest

theorem lookup_exec (job : S → α → β × S) (args : List α) (worker : Nat → Nat) (j : Nat) (a : α)
    (ha : args[j]? = some a) (order : List Nat) (hj : j ∈ order) (st : Nat → S) :
    (exec job args worker st order).lookup j
      = some (job (stateAfter job args worker st (order.takeWhile (· != j)) (worker j)) a).1 := by
  induction order generalizing st with
  | nil => cases hj
  | cons k rest ih =>
    by_cases hk : k = j
    · subst hk
      simp [exec, ha, stateAfter]
    · have hr : j ∈ rest := by simpa [Ne.symm hk] using hj
      have hjk : (j == k) = false := by simpa using Ne.symm hk
      cases hak : args[k]? with
      | none => simpa [exec, stateAfter, hak, hk] using ih hr st
      | some b => simpa [exec, stateAfter, hak, hk, List.lookup_cons, hjk] using ih hr _

theorem collect_congr (N : Nat) (done : List (Nat × β)) (g : Nat → Option β)
    (h : ∀ i, i < N → done.lookup i = g i) : collect N done = (List.range N).filterMap g := by
  unfold collect
  induction N with
  | zero => rfl
  | succ n ih =>
    rw [List.range_succ, List.filterMap_append, List.filterMap_append, ih (fun i hi => h i (by omega))]
    simp only [List.filterMap_cons, List.filterMap_nil, h n (by omega)]

theorem range_filterMap_mapIdx (f : Nat → α → β) (args : List α) :
    (List.range args.length).filterMap (fun i => (args[i]?).map (f i)) = args.mapIdx f := by
  induction args generalizing f with
  | nil => rfl
  | cons a as ih =>
    simp [List.range_succ_eq_map, List.filterMap_map, Function.comp_def, ih]

/-- `starmap` under any schedule that runs every job: result `i` is the output of job `i`, run in the state its
    worker has reached after the jobs executed before it (`σ.order.takeWhile (· != i)`); results are collected by
    job index -/
theorem runPoolFork_eq (σ : Schedule) (job : S → α → β × S) (s0 : S) (args : List α)
    (h : ∀ i, i < args.length → i ∈ σ.order) :
    runPoolFork σ job s0 args = args.mapIdx fun i a =>
      (job (stateAfter job args σ.worker (fun _ => s0) (σ.order.takeWhile (· != i)) (σ.worker i)) a).1 := by
  rw [← range_filterMap_mapIdx]
  apply collect_congr
  intro i hi
  rw [List.getElem?_eq_getElem hi]
  exact lookup_exec job args σ.worker i _ (List.getElem?_eq_getElem hi) σ.order (h i hi) _

theorem Schedule.Valid.mem {σ : Schedule} {N p : Nat} (h : σ.Valid N p) (i : Nat) : i ∈ σ.order ↔ i < N := by
  rw [h.1.mem_iff, List.mem_range]

theorem Schedule.Valid.nodup {σ : Schedule} {N p : Nat} (h : σ.Valid N p) : σ.order.Nodup :=
  h.1.nodup_iff.mpr List.nodup_range

theorem roundRobin_valid (N p : Nat) (hp : 0 < p) : (Schedule.roundRobin N p).Valid N p :=
  ⟨List.Perm.refl _, fun j _ => Nat.mod_lt j hp⟩

theorem runPool_eq_map {σ : Schedule} {N p : Nat} {f : α → β} {args : List α} (hN : args.length = N)
    (hσ : σ.Valid N p) : runPool σ f args = args.map f := by
  rw [runPool, runPoolFork_eq σ _ () args (fun i hi => (hσ.mem i).mpr (hN ▸ hi))]
  exact List.ext_getElem? fun i => by simp

end Pool
