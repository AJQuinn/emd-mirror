/- Lemmas about EmdModel.Phase: `wrap` as the representative in `[0, m)`, `np.gradient`, running sums, and
   frequency → phase → frequency at every index (`roundtrip_getElem?`). -/
import EmdModel.Phase
import Proofs.Lemmas.Sig
import Mathlib.Tactic.Ring
import Mathlib.Algebra.Order.Field.Rat

namespace Phase

/-! ### wrap -/

theorem wrap_nonneg {m : Rat} (hm : 0 < m) (x : Rat) : 0 ≤ wrap m x := by
  rw [wrap, sub_nonneg, mul_comm]
  exact (le_div_iff₀ hm).mp (Rat.floor_le (x / m))

theorem wrap_lt {m : Rat} (hm : 0 < m) (x : Rat) : wrap m x < m := by
  have h := Rat.lt_floor_add_one (x / m)
  rw [Int.cast_add, Int.cast_one, div_lt_iff₀ hm] at h
  rwa [wrap, sub_lt_iff_lt_add, ← mul_one_add, mul_comm, add_comm]

theorem wrap_add_int_mul {m : Rat} (hm : m ≠ 0) (x : Rat) (k : Int) :
    wrap m (x + k * m) = wrap m x := by
  unfold wrap
  rw [add_div, mul_div_cancel_right₀ _ hm, Rat.floor_add_intCast, Int.cast_add]
  ring

theorem wrap_eq_self {m x : Rat} (h0 : 0 ≤ x) (h1 : x < m) : wrap m x = x := by
  have hm : 0 < m := lt_of_le_of_lt h0 h1
  have a : (0 : Int) ≤ (x / m).floor := Rat.le_floor_iff.mpr (by simpa using div_nonneg h0 hm.le)
  have b : (x / m).floor < (1 : Int) := Rat.floor_lt_iff.mpr (by rwa [Int.cast_one, div_lt_iff₀ hm, one_mul])
  rw [wrap, show (x / m).floor = 0 by omega, Int.cast_zero, mul_zero, sub_zero]

theorem wrap_unique {m x r : Rat} (k : Int) (h0 : 0 ≤ r) (h1 : r < m) (hx : x = r + k * m) :
    wrap m x = r := by
  have hm : m ≠ 0 := ne_of_gt (lt_of_le_of_lt h0 h1)
  rw [hx, wrap_add_int_mul hm, wrap_eq_self h0 h1]

theorem wrap_decomp (m x : Rat) : x = wrap m x + ((x / m).floor : Rat) * m := by
  unfold wrap; ring

/-! ### indexing -/

theorem getR_of_lt {x : List Rat} {i : Nat} (h : i < x.length) : getR x i = x[i] := by
  simp [getR, h]

theorem getR_of_ge {x : List Rat} {i : Nat} (h : x.length ≤ i) : getR x i = 0 := by
  simp [getR, h]

theorem getR_map_of_lt (g : Rat → Rat) {x : List Rat} {i : Nat} (h : i < x.length) :
    getR (x.map g) i = g (getR x i) := by
  simp [getR, h]

theorem getR_map_zero (g : Rat → Rat) (h0 : g 0 = 0) (x : List Rat) (i : Nat) :
    getR (x.map g) i = g (getR x i) := Sig.sval_map g h0 x i

theorem getR_replicate {n j : Nat} (c : Rat) (h : j < n) : getR (List.replicate n c) j = c := by
  rw [getR_of_lt (by rwa [List.length_replicate]), List.getElem_replicate]

theorem getR_zipWith (f : Rat → Rat → Rat) {x y : List Rat} {i : Nat} (hx : i < x.length) (hy : i < y.length) :
    getR (List.zipWith f x y) i = f x[i] y[i] := by
  rw [← getR_of_lt hx, ← getR_of_lt hy]
  exact Sig.sval_zipWith f hx hy

/-! ### gradient -/

@[simp] theorem gradient_length (x : List Rat) : (gradient x).length = x.length := by
  simp [gradient]

theorem gradient_getElem? {x : List Rat} {i : Nat} (h : i < x.length) :
    (gradient x)[i]? = some (gradAt x i) := by
  simp [gradient, h]

/-- `np.gradient` sees a column only through differences of samples in range, and is linear in them -/
theorem gradAt_of_sub {x y : List Rat} {i : Nat} (a : Rat) (hl : y.length = x.length) (hi : i < x.length)
    (hn : 2 ≤ x.length)
    (h : ∀ j k, j < x.length → k < x.length → getR y j - getR y k = a * (getR x j - getR x k)) :
    gradAt y i = a * gradAt x i := by
  have h1 : i - 1 < x.length := Nat.lt_of_le_of_lt (Nat.sub_le i 1) hi
  unfold gradAt
  rw [hl]
  split
  · exact h 1 0 hn (Nat.lt_of_succ_lt hn)
  · split
    · exact h i (i - 1) hi h1
    · rw [h (i + 1) (i - 1) (by omega) h1, mul_div_assoc]

theorem gradAt_add_const (c : Rat) {x : List Rat} {i : Nat} (hi : i < x.length) (hn : 2 ≤ x.length) :
    gradAt (x.map fun u => u + c) i = gradAt x i := by
  rw [gradAt_of_sub 1 (List.length_map _) hi hn fun j k hj hk => by
    rw [getR_map_of_lt _ hj, getR_map_of_lt _ hk, add_sub_add_right_eq_sub, one_mul], one_mul]

theorem gradient_add_const (c : Rat) {x : List Rat} (hn : 2 ≤ x.length) :
    gradient (x.map fun u => u + c) = gradient x := by
  unfold gradient
  rw [List.length_map]
  exact List.map_congr_left fun i hi => gradAt_add_const c (List.mem_range.mp hi) hn

theorem gradAt_smul (c : Rat) (x : List Rat) (i : Nat) :
    gradAt (x.map fun u => c * u) i = c * gradAt x i := by
  unfold gradAt
  simp only [List.length_map, getR_map_zero (fun u => c * u) (by simp)]
  split
  · ring
  · split <;> ring

theorem gradAt_replicate (c : Rat) (n i : Nat) (hn : 2 ≤ n) (hi : i < n) :
    gradAt (List.replicate n c) i = 0 := by
  have hl : (List.replicate n c).length = n := List.length_replicate
  rw [gradAt_of_sub 0 rfl (hl.symm ▸ hi) (hl.symm ▸ hn) fun j k hj hk => by
    rw [getR_replicate c (hl ▸ hj), getR_replicate c (hl ▸ hk), sub_self, zero_mul], zero_mul]

/-! ### cumulative sum -/

@[simp] theorem cumsumFrom_length (a : Rat) (x : List Rat) : (cumsumFrom a x).length = x.length := by
  induction x generalizing a with
  | nil => rfl
  | cons b t ih => simp [cumsumFrom, ih]

@[simp] theorem cumsum_length (x : List Rat) : (cumsum x).length = x.length := cumsumFrom_length 0 x

theorem getR_cumsumFrom_zero (a : Rat) {x : List Rat} (h : 0 < x.length) :
    getR (cumsumFrom a x) 0 = a + getR x 0 := by
  cases x with
  | nil => simp at h
  | cons b t => rfl

theorem getR_cumsumFrom_succ (a : Rat) {x : List Rat} {i : Nat} (h : i + 1 < x.length) :
    getR (cumsumFrom a x) (i + 1) = getR (cumsumFrom a x) i + getR x (i + 1) := by
  induction x generalizing a i with
  | nil => simp at h
  | cons b t ih =>
    cases i with
    | zero =>
      cases t with
      | nil => simp at h
      | cons c t' => rfl
    | succ j => exact ih (a + b) (Nat.lt_of_succ_lt_succ h)

/-! ### phase_from_freq followed by freq_from_phase -/

variable {tp sr s : Rat} {f : List Rat}

@[simp] theorem freqFromPhase_length (p : List Rat) :
    (freqFromPhase tp sr p).length = p.length := by simp [freqFromPhase]

@[simp] theorem phaseFromFreq_length :
    (phaseFromFreq tp sr s f).length = f.length := by simp [phaseFromFreq]

theorem freqFromPhase_getElem? {p : List Rat} {i : Nat} (h : i < p.length) :
    (freqFromPhase tp sr p)[i]? = some (gradAt p i / tp * sr) := by
  rw [freqFromPhase, List.getElem?_map, gradient_getElem? h, Option.map_some]

theorem phaseFromFreq_step {j : Nat} (h : j + 1 < f.length) :
    getR (phaseFromFreq tp sr s f) (j + 1) - getR (phaseFromFreq tp sr s f) j
      = getR f (j + 1) / sr * tp := by
  unfold phaseFromFreq cumsum
  rw [getR_map_of_lt _ (by simpa using h), getR_map_of_lt _ (by simp; omega),
    getR_cumsumFrom_succ 0 (by simpa using h), getR_map_of_lt _ h]
  ring

/-- what `np.gradient ∘ np.cumsum` leaves of a profile: the one-sided ends, the two-sample mean inside -/
def smoothed (f : List Rat) (i : Nat) : Rat :=
  if i = 0 then getR f 1 else if i + 1 = f.length then getR f i else (getR f i + getR f (i + 1)) / 2

theorem gradAt_phaseFromFreq {i : Nat} (hi : i < f.length) (hn : 2 ≤ f.length) :
    gradAt (phaseFromFreq tp sr s f) i = smoothed f i / sr * tp := by
  unfold gradAt smoothed
  rw [phaseFromFreq_length]
  split
  · exact phaseFromFreq_step (j := 0) (by omega)
  · obtain ⟨j, rfl⟩ : ∃ j, i = j + 1 := ⟨i - 1, by omega⟩
    have a := phaseFromFreq_step (tp := tp) (sr := sr) (s := s) hi
    rw [Nat.add_sub_cancel]
    split
    · exact a
    · -- the central difference is the sum of the two steps around `j + 1`
      rw [← sub_add_sub_cancel _ (getR (phaseFromFreq tp sr s f) (j + 1)),
        phaseFromFreq_step (j := j + 1) (by omega), a]
      ring

theorem roundtrip_getElem? (htp : tp ≠ 0) (hsr : sr ≠ 0) {i : Nat} (hi : i < f.length) (hn : 2 ≤ f.length) :
    (freqFromPhase tp sr (phaseFromFreq tp sr s f))[i]? = some (smoothed f i) := by
  rw [freqFromPhase_getElem? (by simpa using hi), gradAt_phaseFromFreq hi hn,
    mul_div_cancel_right₀ _ htp, div_mul_cancel₀ _ hsr]

end Phase
