/- Lemmas about EmdModel.Phase: numpy's `unwrap` inverts `wrap` on a slowly varying phase (`unwrap_wrap_list`). -/
import Proofs.Lemmas.Phase

namespace Phase

/-- consecutive samples differ by less than `h` in absolute value -/
def Slow (h : Rat) : List Rat → Prop
  | a :: b :: t => absR (b - a) < h ∧ Slow h (b :: t)
  | _ => True

theorem slow_add_const {h : Rat} (c : Rat) {U : List Rat} (hs : Slow h U) : Slow h (U.map fun u => u + c) := by
  induction U with
  | nil => trivial
  | cons a t ih =>
    cases t with
    | nil => trivial
    | cons b t' =>
      obtain ⟨h1, h2⟩ := hs
      refine ⟨?_, ih h2⟩
      rwa [add_sub_add_right_eq_sub]

theorem absR_eq_abs (x : Rat) : absR x = |x| := by
  unfold absR
  split
  · rename_i h; exact (abs_of_neg h).symm
  · rename_i h; exact (abs_of_nonneg (not_lt.mp h)).symm

theorem absR_lt_half {x m : Rat} (h : absR x < m / 2) : 0 < x + m / 2 ∧ x + m / 2 < m := by
  rw [absR_eq_abs, abs_lt] at h
  exact ⟨neg_lt_iff_pos_add.mp h.1, by simpa only [add_halves] using add_lt_add_left h.2 (m / 2)⟩

/-- numpy's correction replaces a raw difference `dd` by its representative `d` modulo `m` within half a period
    of 0: `dd + unwrapCorr m dd = d` -/
theorem unwrapCorr_of_rep {m d dd : Rat} (k : Int) (hdd : dd = d - k * m) (hd : absR d < m / 2) :
    unwrapCorr m dd = d - dd := by
  obtain ⟨h0, h1⟩ := absR_lt_half hd
  have hw : wrap m (dd + m / 2) = d + m / 2 := wrap_unique (-k) h0.le h1 (by rw [hdd]; push_cast; ring)
  unfold unwrapCorr
  simp only [hw, add_sub_cancel_right]
  split
  · -- `dd + m/2` lies in `[0, m)` as well, so it is its own representative: `dd = d`
    rename_i hsmall
    obtain ⟨s0, s1⟩ := absR_lt_half hsmall
    rw [wrap_eq_self s0.le s1] at hw
    rw [add_right_cancel hw, sub_self]
  · rw [if_neg fun h => ne_of_gt h0 (by rw [h.1, neg_add_cancel])]

theorem diff_cons_cons (a b : Rat) (t : List Rat) : diff (a :: b :: t) = (b - a) :: diff (b :: t) := rfl

/-- after the sample `u`, with `acc` the corrections added so far: every later sample comes out as its true
    value shifted by `acc` and by what wrapping took from `u` -/
theorem unwrap_aux {m : Rat} (t : List Rat) :
    ∀ (acc u : Rat), Slow (m / 2) (u :: t) →
      List.zipWith (· + ·) (t.map (wrap m))
        (cumsumFrom acc ((diff ((u :: t).map (wrap m))).map (unwrapCorr m)))
      = t.map (fun v => v + (acc + (wrap m u - u))) := by
  induction t with
  | nil => intro acc u _; simp
  | cons v t ih =>
    intro acc u hs
    obtain ⟨h1, h2⟩ := hs
    -- the wrapped difference is the true one minus a whole number of periods
    have hc : unwrapCorr m (wrap m v - wrap m u) = (v - u) - (wrap m v - wrap m u) :=
      unwrapCorr_of_rep ((v / m).floor - (u / m).floor) (by unfold wrap; push_cast; ring) h1
    simp only [List.map_cons, diff_cons_cons, cumsumFrom, List.zipWith_cons_cons, hc]
    have := ih (acc + ((v - u) - (wrap m v - wrap m u))) v h2
    simp only [List.map_cons] at this
    rw [this]
    congr 1
    · ring
    · apply List.map_congr_left
      intro w _
      ring

theorem unwrap_wrap_list {m : Rat} {U : List Rat} (hs : Slow (m / 2) U) :
    unwrap m (U.map (wrap m)) = U.map (fun v => v + (wrap m (U.headD 0) - U.headD 0)) := by
  cases U with
  | nil => rfl
  | cons u t =>
    simp only [List.map_cons, unwrap, List.headD_cons, cumsum]
    have := unwrap_aux t 0 u hs
    simp only [List.map_cons, zero_add] at this
    rw [this, add_sub_cancel]

end Phase
