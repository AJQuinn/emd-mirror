/-
  Cross-model consistency: the shape checks duplicated inside the spectra model
  (`Spectra.ensure2d`, `Spectra.equalDimsAll`, `Spectra.equalDimsAt`; C10/C11) are the routines of the
  Support model (`Support.ensure2d`, `Support.ensureEqualDims`; C19).
-/
import EmdModel.Spectra
import Proofs.Lemmas.Support

namespace ComposeShapes
open Support

theorem ensure2d_agree (s : List Nat) : Spectra.ensure2d s = Support.ensure2d s := by
  unfold Spectra.ensure2d Support.ensure2d
  by_cases h : s.length = 1 <;> simp [h]

/-- outcome of the Spectra-side check as the Support-side result -/
def toExcept : Option Bool → Except Err Unit
  | none => .error .indexError
  | some false => .error .valueError
  | some true => .ok ()

theorem toExcept_some (b : Bool) : toExcept (some b) = if b then .ok () else .error .valueError := by
  cases b <;> rfl

theorem equalDimsAll_agree (ss : List Shape) :
    toExcept (Spectra.equalDimsAll ss) = ensureEqualDims ss none := by
  cases ss with
  | nil => rfl
  | cons s0 rest =>
    rw [ensureEqualDims_none]
    simp only [Spectra.equalDimsAll, List.any_eq_true, decide_eq_true_eq]
    split
    · rfl
    · simp [toExcept_some]

/-- along one axis `pickAll` is the `mapM` of the spectra model, entry by entry -/
theorem pickAll_single (d : Nat) (ss : List Shape) :
    pickAll [d] ss = match ss.mapM (·[d]?) with
      | none => .error .indexError
      | some vs => .ok (vs.map ([·])) := by
  induction ss with
  | nil => rfl
  | cons s t ih =>
    rw [pickAll, ih, List.mapM_cons, pick, pick]
    cases s[d]? with
    | none => rfl
    | some v => cases t.mapM (·[d]?) <;> rfl

theorem equalDimsAt_agree (ss : List Shape) (d : Nat) :
    toExcept (Spectra.equalDimsAt ss d) = ensureEqualDims ss (some d) := by
  cases ss with
  | nil => rfl
  | cons s0 rest =>
    rw [ensureEqualDims, dimsOf, pickAll_single, Spectra.equalDimsAt, List.mapM_cons, pick, pick]
    cases s0[d]? with
    | none => rfl
    | some a =>
      cases rest.mapM (·[d]?) with
      | none => rfl
      | some vs =>
        simp only [Option.pure_def, Option.bind_eq_bind, Option.bind_some, toExcept_some, List.all_eq_true,
          beq_iff_eq, List.all_map, Function.comp_def, List.cons_beq_cons, BEq.rfl, Bool.and_true]

end ComposeShapes
