/- Lemmas about EmdModel.Kdt: the marker matrix and the loop invariant (for any lookup that is `OccSound`), winner
   extraction and the returned pairs, the greedy reading of the repaired loop, the contract of the query oracle (`WFQuery`,
   executable as `wfCheck`), and that real neighbours sit in the first `ny` columns of a well-formed query. -/
import EmdModel.Kdt

namespace Kdt

/-! ### the marker matrix -/

@[simp] theorem default_listBool : (default : List Bool) = [] := rfl

/-- `II[r, c]` of the processed part (false outside) -/
def M (cols : List (List Bool)) (c r : Nat) : Bool := (cols[c]!)[r]!

theorem M_of_lt {cols : List (List Bool)} {c : Nat} (hc : c < cols.length) (r : Nat) : M cols c r = cols[c][r]! := by
  rw [M, getElem!_pos cols c hc]

theorem M_of_le {cols : List (List Bool)} {c : Nat} (hc : cols.length ≤ c) (r : Nat) : M cols c r = false := by
  rw [M, getElem!_neg cols c (Nat.not_lt.mpr hc)]; rfl

theorem M_lt {cols : List (List Bool)} {c r : Nat} (h : M cols c r = true) : c < cols.length :=
  Nat.not_le.mp fun hc => by rw [M_of_le hc] at h; cases h

theorem M_append (cols : List (List Bool)) (nc : List Bool) (c r : Nat) :
    M (cols ++ [nc]) c r = (M cols c r || (c == cols.length && nc[r]!)) := by
  have hl : (cols ++ [nc]).length = cols.length + 1 := List.length_append
  rcases Nat.lt_trichotomy c cols.length with h | rfl | h
  · rw [M_of_lt (hl ▸ Nat.lt_succ_of_lt h), M_of_lt h, List.getElem_append_left h, beq_false_of_ne (Nat.ne_of_lt h),
      Bool.false_and, Bool.or_false]
  · rw [M_of_lt (hl ▸ Nat.lt_succ_self _), M_of_le (Nat.le_refl _), List.getElem_append_right (Nat.le_refl _),
      beq_self_eq_true]
    simp only [Nat.sub_self, List.getElem_cons_zero, Bool.false_or, Bool.true_and]
  · rw [M_of_le (hl ▸ h), M_of_le (Nat.le_of_lt h), beq_false_of_ne (Nat.ne_of_gt h)]; rfl

theorem getElem!_rowMarks (cols : List (List Bool)) (c r : Nat) : (rowMarks cols r)[c]! = M cols c r := by
  simp only [rowMarks, M, List.getElem!_eq_getElem?_getD, List.getElem?_map]
  cases cols[c]? <;> rfl

theorem earlier_iff (cols : List (List Bool)) (r : Nat) :
    earlier cols r = true ↔ ∃ c, M cols c r = true := by
  simp only [earlier, List.any_eq_true, List.mem_iff_getElem]
  constructor
  · rintro ⟨_, ⟨c, hc, rfl⟩, h⟩
    exact ⟨c, (M_of_lt hc r).trans h⟩
  · rintro ⟨c, h⟩
    exact ⟨_, ⟨c, M_lt h, rfl⟩, (M_of_lt (M_lt h) r).symm.trans h⟩

/-! ### order on distances, the closest claimant -/

theorem dle_refl (a : Dist) : dle a a = true := by
  cases a with
  | none => rfl
  | some x => simp [dle, dlt, Rat.lt_irrefl]

theorem dle_trans {a b c : Dist} (h1 : dle a b = true) (h2 : dle b c = true) : dle a c = true := by
  cases a <;> cases b <;> cases c <;> simp_all [dle, dlt]
  rename_i x y z
  exact Rat.not_lt.mpr (Rat.le_trans (Rat.not_lt.mp h1) (Rat.not_lt.mp h2))

theorem dle_of_dlt {a b : Dist} (h : dlt a b = true) : dle a b = true := by
  cases a <;> cases b <;> simp_all [dle, dlt]
  rename_i x y
  exact Rat.not_lt.mpr (Rat.le_of_lt h)

theorem closestFrom_spec (d : Nat → Dist) (best : Nat) (rs : List Nat) :
    closestFrom d best rs ∈ best :: rs ∧ ∀ x ∈ best :: rs, dle (d (closestFrom d best rs)) (d x) = true := by
  induction rs generalizing best with
  | nil => simp [closestFrom, dle_refl]
  | cons r rs ih =>
    rw [closestFrom]
    by_cases hlt : dlt (d r) (d best) = true
    · rw [if_pos hlt]
      obtain ⟨hmem, hmin⟩ := ih r
      refine ⟨List.mem_cons_of_mem _ hmem, fun x hx => ?_⟩
      rcases List.mem_cons.mp hx with rfl | hx
      · exact dle_trans (hmin r List.mem_cons_self) (dle_of_dlt hlt)
      · exact hmin x hx
    · rw [if_neg hlt]
      obtain ⟨hmem, hmin⟩ := ih best
      refine ⟨List.cons_subset_cons _ (List.subset_cons_self _ _) hmem, fun x hx => ?_⟩
      rcases List.mem_cons.mp hx with rfl | hx
      · exact hmin x List.mem_cons_self
      · rcases List.mem_cons.mp hx with rfl | hx
        · exact dle_trans (hmin best List.mem_cons_self) (by simpa [dle] using hlt)
        · exact hmin x (List.mem_cons_of_mem _ hx)

theorem closest_spec {d : Nat → Dist} {occ : List Nat} {r : Nat} (h : closest d occ = some r) :
    r ∈ occ ∧ ∀ x ∈ occ, dle (d r) (d x) = true := by
  cases occ with
  | nil => cases h
  | cons a t => cases h; exact closestFrom_spec d a t

theorem closest_isSome_of_mem {d : Nat → Dist} {occ : List Nat} {r : Nat} (h : r ∈ occ) :
    ∃ x, closest d occ = some x := by
  cases occ with
  | nil => cases h
  | cons a t => exact ⟨_, rfl⟩

/-! ### what the loop needs from `_unique_inds` -/

/-- The occurrence lists returned by the lookup are row numbers of the column that hold the value,
    and the occurrence list is a function of the value. -/
structure OccSound (U : List Nat → List (Nat × List Nat)) : Prop where
  holds : ∀ col p, p ∈ U col → ∀ r ∈ p.2, col[r]? = some p.1
  func : ∀ col p q, p ∈ U col → q ∈ U col → p.1 = q.1 → p.2 = q.2

theorem mem_positionsOf (ar : List Nat) (v p : Nat) : p ∈ positionsOf ar v ↔ ar[p]? = some v := by
  simp only [positionsOf, beq_iff_eq, List.mem_filterMap, List.mem_zipIdx_iff_getElem?,
    Option.ite_none_right_eq_some, Option.some.injEq, Prod.exists, exists_eq_right_right, exists_eq_right]

theorem uniqueInds_occSound : OccSound uniqueInds where
  holds := by
    intro col p hp r hr
    obtain ⟨v, _, rfl⟩ := List.mem_map.mp hp
    exact (mem_positionsOf col v r).mp hr
  func := by
    intro col p q hp hq h
    obtain ⟨v, _, rfl⟩ := List.mem_map.mp hp
    obtain ⟨w, _, rfl⟩ := List.mem_map.mp hq
    cases h
    rfl

theorem getElem?_map_range (f : Nat → Nat) (n r v : Nat) :
    ((List.range n).map f)[r]? = some v ↔ r < n ∧ f r = v := by
  by_cases h : r < n <;> simp [h]

theorem getElem!_map_range (f : Nat → Bool) (n r : Nat) :
    ((List.range n).map f)[r]! = (decide (r < n) && f r) := by
  by_cases h : r < n <;> simp [h]

section
variable {U : List Nat → List (Nat × List Nat)} {nx : Nat} {col : Nat → Nat} {d : Nat → Dist} {s : St}

theorem closestRows_spec (hU : OccSound U) {r : Nat} (h : r ∈ closestRows U nx col d) :
    r < nx ∧ ∃ p ∈ U ((List.range nx).map col), p.1 = col r ∧ closest d p.2 = some r := by
  obtain ⟨p, hp, hc⟩ := List.mem_filterMap.mp h
  obtain ⟨hlt, hv⟩ := (getElem?_map_range ..).mp (hU.holds _ p hp r (closest_spec hc).1)
  exact ⟨hlt, p, hp, hv.symm, hc⟩

theorem closestRows_inj (hU : OccSound U) {r r' : Nat} (h : r ∈ closestRows U nx col d)
    (h' : r' ∈ closestRows U nx col d) (hv : col r = col r') : r = r' := by
  obtain ⟨_, p, hp, hp1, hpc⟩ := closestRows_spec hU h
  obtain ⟨_, q, hq, hq1, hqc⟩ := closestRows_spec hU h'
  have := hU.func _ p q hp hq (by rw [hp1, hq1, hv])
  rw [this, hqc] at hpc
  exact (Option.some.inj hpc).symm

/-! ### the loop invariant: marks form a partial injection rows ↔ selected values -/

structure Inv (nx : Nat) (iA : Nat → Nat → Nat) (s : St) : Prop where
  /-- marks sit on rows of `x` -/
  lt_nx : ∀ c r, M s.cols c r = true → r < nx
  /-- a row is marked in at most one column -/
  one : ∀ c c' r, M s.cols c r = true → M s.cols c' r = true → c = c'
  /-- the value under a mark has been recorded in `selected` -/
  sel : ∀ c r, M s.cols c r = true → iA r c ∈ s.selected
  /-- no value is marked for two different rows -/
  inj : ∀ c c' r r', M s.cols c r = true → M s.cols c' r' = true → iA r c = iA r' c' → r = r'
  /-- `selected` holds nothing but values under marks -/
  from_mark : ∀ v ∈ s.selected, ∃ c r, M s.cols c r = true ∧ iA r c = v

theorem Inv_init (nx : Nat) (iA : Nat → Nat → Nat) : Inv nx iA ⟨[], []⟩ := by
  have hno : ∀ c r, M ([] : List (List Bool)) c r ≠ true := fun c r h => Nat.not_lt_zero c (M_lt h)
  exact ⟨fun c r h => absurd h (hno c r), fun c _ r h => absurd h (hno c r), fun c r h => absurd h (hno c r),
    fun c _ r _ h => absurd h (hno c r), fun v hv => absurd hv List.not_mem_nil⟩

theorem Inv.mem_selected_iff {iA : Nat → Nat → Nat} (h : Inv nx iA s) (v : Nat) :
    v ∈ s.selected ↔ ∃ c r, M s.cols c r = true ∧ iA r c = v :=
  ⟨h.from_mark v, fun ⟨c, r, hm, hv⟩ => hv ▸ h.sel c r hm⟩

theorem markNow_iff (cr fv : List Nat) (cols : List (List Bool)) (r : Nat) :
    markNow cr fv cols col r = true ↔ r ∈ cr ∧ col r ∈ fv ∧ ∀ c, M cols c r = false := by
  have : earlier cols r = false ↔ ∀ c, M cols c r = false := by
    rw [← Bool.not_eq_true, earlier_iff]; simp
  simp [markNow, this, and_assoc]

theorem mem_freeVals {sel : List Nat} {v : Nat} :
    v ∈ freeVals U nx col sel ↔ v ∈ (U ((List.range nx).map col)).map (·.1) ∧ v ∉ sel := by
  simp only [freeVals, List.mem_filter, List.contains_eq_mem, Bool.not_eq_eq_eq_not, Bool.not_true, decide_eq_false_iff_not]

theorem M_stepCol_iff (c r : Nat) :
    M (stepCol U nx col d s).cols c r = true ↔
      M s.cols c r = true ∨
      (c = s.cols.length ∧ r < nx ∧ r ∈ closestRows U nx col d ∧ col r ∈ freeVals U nx col s.selected ∧
        ∀ c', M s.cols c' r = false) := by
  simp only [stepCol, M_append, getElem!_map_range, Bool.or_eq_true, Bool.and_eq_true, beq_iff_eq, decide_eq_true_eq,
    markNow_iff]

theorem mem_selected_stepCol (v : Nat) :
    v ∈ (stepCol U nx col d s).selected ↔
      v ∈ s.selected ∨ ∃ r, M (stepCol U nx col d s).cols s.cols.length r = true ∧ col r = v := by
  simp only [stepCol, M_append, M_of_le (Nat.le_refl _), beq_self_eq_true, Bool.false_or, Bool.true_and,
    getElem!_map_range, List.mem_append, List.mem_map, List.mem_filter, List.mem_range, Bool.and_eq_true, decide_eq_true_eq]

theorem Inv_step {U : List Nat → List (Nat × List Nat)} (hU : OccSound U) {nx : Nat} {iA : Nat → Nat → Nat}
    (d : Nat → Dist) {s : St} (h : Inv nx iA s) :
    Inv nx iA (stepCol U nx (fun r => iA r s.cols.length) d s) := by
  have hM := @M_stepCol_iff U nx (fun r => iA r s.cols.length) d s
  have hS := @mem_selected_stepCol U nx (fun r => iA r s.cols.length) d s
  constructor
  · intro c r hm
    rcases (hM c r).mp hm with hm | ⟨_, h1, _⟩
    · exact h.lt_nx c r hm
    · exact h1
  · intro c c' r hm hm'
    rcases (hM c r).mp hm with hm | ⟨hc, _, _, _, hno⟩ <;>
    rcases (hM c' r).mp hm' with hm' | ⟨hc', _, _, _, hno'⟩
    · exact h.one c c' r hm hm'
    · cases (hno' c).symm.trans hm
    · cases (hno c').symm.trans hm'
    · exact hc.trans hc'.symm
  · intro c r hm
    refine (hS _).mpr ?_
    rcases (hM c r).mp hm with hm' | ⟨rfl, _⟩
    · exact Or.inl (h.sel c r hm')
    · exact Or.inr ⟨r, hm, rfl⟩
  · intro c c' r r' hm hm' hv
    -- an old mark and a new one never share a value: the new one was free; two new ones: one claimant per value
    rcases (hM c r).mp hm with hm | ⟨hc, _, h2, h3, _⟩ <;>
    rcases (hM c' r').mp hm' with hm' | ⟨hc', _, h2', h3', _⟩
    · exact h.inj c c' r r' hm hm' hv
    · subst hc'
      exact absurd (hv ▸ h.sel c r hm) (mem_freeVals.mp h3').2
    · subst hc
      exact absurd (hv ▸ h.sel c' r' hm') (mem_freeVals.mp h3).2
    · subst hc; subst hc'
      exact closestRows_inj hU h2 h2' hv
  · intro v hv
    rcases (hS v).mp hv with hv | ⟨r, hm, rfl⟩
    · obtain ⟨c, r, hm, hv⟩ := h.from_mark v hv
      exact ⟨c, r, (hM c r).mpr (Or.inl hm), hv⟩
    · exact ⟨_, r, hm, rfl⟩

end

section
variable {U : List Nat → List (Nat × List Nat)} {nx ny K : Nat} {iA : Nat → Nat → Nat} {dA : Nat → Nat → Dist}

theorem runCols_succ :
    runCols U nx iA dA (K + 1) = stepCol U nx (fun r => iA r K) (fun r => dA r K) (runCols U nx iA dA K) := by
  simp [runCols, List.range_succ, List.foldl_append]

theorem runCols_length : (runCols U nx iA dA K).cols.length = K := by
  induction K with
  | zero => simp [runCols]
  | succ K ih => rw [runCols_succ]; simp [stepCol, ih]

theorem Inv_runCols (hU : OccSound U) : Inv nx iA (runCols U nx iA dA K) := by
  induction K with
  | zero => exact Inv_init nx iA
  | succ K ih =>
    rw [runCols_succ]
    have := Inv_step hU (fun r => dA r K) ih
    rwa [runCols_length] at this

theorem M_runCols_lt {c r : Nat} (h : M (runCols U nx iA dA K).cols c r = true) : c < K := by
  simpa [runCols_length] using M_lt h

/-! ### winner extraction -/

theorem winner_spec {m : List Bool} (h : true ∈ m) : m[winner m]! = true := by
  have hlt := List.idxOf_lt_length_of_mem h
  rw [winner, if_pos (List.contains_iff_mem.mpr h), getElem!_pos m _ hlt]
  exact List.getElem_idxOf hlt

theorem count_true_le_one (m : List Bool) (h : ∀ i j : Nat, m[i]! = true → m[j]! = true → i = j) : m.count true ≤ 1 := by
  induction m with
  | nil => exact Nat.zero_le 1
  | cons a t ih =>
    -- `(a :: t)[i + 1]!` is `t[i]!` by definition
    have ht := ih fun i j hi hj => Nat.succ_inj.mp (h (i + 1) (j + 1) hi hj)
    cases a with
    | false => rwa [List.count_cons_of_ne Bool.false_ne_true]
    | true =>
      have : true ∉ t := fun hm => by
        obtain ⟨i, hi, he⟩ := List.getElem_of_mem hm
        exact Nat.succ_ne_zero i (h (i + 1) 0 ((getElem!_pos t i hi).trans he) rfl)
      rw [List.count_cons_self, List.count_eq_zero.mpr this]
      exact Nat.le_refl 1

theorem rowMarks_count_le_one {cols : List (List Bool)} {r : Nat}
    (h : ∀ c c', M cols c r = true → M cols c' r = true → c = c') : (rowMarks cols r).count true ≤ 1 :=
  count_true_le_one _ (by simpa only [getElem!_rowMarks] using h)

theorem finalOf_some {cols : List (List Bool)} {r y : Nat} (h : finalOf ny iA cols r = some y) :
    ∃ c, M cols c r = true ∧ c < ny ∧ iA r c = y ∧ y < ny := by
  unfold finalOf at h
  simp only [Bool.and_eq_true, beq_iff_eq, decide_eq_true_eq] at h
  split at h
  · rename_i hc
    obtain ⟨⟨hcnt, hw⟩, hy⟩ := hc
    cases h
    have hmem : true ∈ rowMarks cols r := List.count_pos_iff.mp (by omega)
    exact ⟨_, (getElem!_rowMarks ..).symm.trans (winner_spec hmem), hw, rfl, hy⟩
  · cases h

theorem finalOf_of_mark {cols : List (List Bool)} {r c : Nat}
    (hone : ∀ c c', M cols c r = true → M cols c' r = true → c = c')
    (hm : M cols c r = true) (hc : c < ny) (hy : iA r c < ny) :
    finalOf ny iA cols r = some (iA r c) := by
  have hmem : true ∈ rowMarks cols r :=
    List.mem_map.mpr ⟨cols[c]'(M_lt hm), List.getElem_mem _, (M_of_lt (M_lt hm) r).symm.trans hm⟩
  have hw : winner (rowMarks cols r) = c := hone _ _ ((getElem!_rowMarks ..).symm.trans (winner_spec hmem)) hm
  have hcnt : (rowMarks cols r).count true = 1 :=
    Nat.le_antisymm (rowMarks_count_le_one hone) (List.one_le_count_iff.mpr hmem)
  simp [finalOf, hw, hcnt, hc, hy]

/-! ### the output of the matching -/

theorem zip_filter_filterMap {α β : Type} (f : α → Option β) (l : List α) :
    (l.filter fun a => (f a).isSome).zip ((l.filter fun a => (f a).isSome).filterMap f) =
      l.filterMap fun a => (f a).map (a, ·) := by
  induction l with
  | nil => rfl
  | cons a t ih => cases h : f a <;> simp [h, ih]

theorem mem_matchWith_zip_finalOf {x y : Nat} :
    (x, y) ∈ (matchWith U nx ny K iA dA).1.zip (matchWith U nx ny K iA dA).2 ↔
      x < nx ∧ finalOf ny iA (runCols U nx iA dA K).cols x = some y := by
  simp [matchWith, zip_filter_filterMap]

/-- `c < ny` is the code's test `winner[r] < y.shape[0]`: a COLUMN number compared with the number of rows of `y`.
    For a well-formed query it follows from `y < ny` (`col_lt_ny_of_real`). -/
theorem mem_matchWith_zip_iff (hU : OccSound U) {x y : Nat} :
    (x, y) ∈ (matchWith U nx ny K iA dA).1.zip (matchWith U nx ny K iA dA).2 ↔
      x < nx ∧ ∃ c, M (runCols U nx iA dA K).cols c x = true ∧ c < ny ∧ iA x c = y ∧ y < ny := by
  rw [mem_matchWith_zip_finalOf]
  refine and_congr_right fun _ => ⟨finalOf_some, fun ⟨c, hm, hc, hv, hy⟩ => ?_⟩
  subst hv
  exact finalOf_of_mark (fun c c' => (Inv_runCols hU).one c c' x) hm hc hy

theorem matchWith_len :
    (matchWith U nx ny K iA dA).1.length = (matchWith U nx ny K iA dA).2.length :=
  (List.filterMap_length_eq_length.mpr fun _ hx => (List.mem_filter.mp hx).2).symm

theorem matchWith_x_sorted (U : List Nat → List (Nat × List Nat)) (nx ny K : Nat) (iA : Nat → Nat → Nat)
    (dA : Nat → Nat → Dist) :
    (matchWith U nx ny K iA dA).1.Pairwise (· < ·) ∧ ∀ x ∈ (matchWith U nx ny K iA dA).1, x < nx := by
  unfold matchWith
  exact ⟨List.Pairwise.filter _ List.pairwise_lt_range, fun x hx => List.mem_range.mp (List.mem_filter.mp hx).1⟩

theorem finalOf_inj {s : St} (h : Inv nx iA s) {r r' y : Nat}
    (hr : finalOf ny iA s.cols r = some y) (hr' : finalOf ny iA s.cols r' = some y) : r = r' := by
  obtain ⟨c, hm, _, hv, _⟩ := finalOf_some hr
  obtain ⟨c', hm', _, hv', _⟩ := finalOf_some hr'
  exact h.inj c c' r r' hm hm' (hv.trans hv'.symm)

theorem matchWith_y_nodup (hU : OccSound U) : (matchWith U nx ny K iA dA).2.Nodup := by
  unfold matchWith
  refine List.Pairwise.filterMap _ ?_ (List.Pairwise.filter _ List.nodup_range)
  intro a a' hne b hb b' hb' hbb
  exact hne (finalOf_inj (Inv_runCols hU) hb (hbb ▸ hb'))

/-! ### the repaired loop, declaratively -/

theorem mem_insertSorted (v x : Nat) (l : List Nat) : x ∈ insertSorted v l ↔ x = v ∨ x ∈ l := by
  induction l with
  | nil => simp [insertSorted]
  | cons a as ih =>
    rw [insertSorted]
    split
    · simp
    · simp [ih, or_left_comm]

theorem mem_isort (x : Nat) (l : List Nat) : x ∈ isort l ↔ x ∈ l := by
  fun_induction isort l <;> simp_all [mem_insertSorted]

theorem mem_dedupAdj (x : Nat) (l : List Nat) : x ∈ dedupAdj l ↔ x ∈ l := by
  fun_induction dedupAdj l <;> simp_all

theorem mem_uniqueVals (v : Nat) (col : List Nat) : v ∈ uniqueVals col ↔ v ∈ col := by
  unfold uniqueVals; rw [mem_dedupAdj, mem_isort]

/-- column `c` of the index table as the list the code passes to `_unique_inds` -/
def colList (nx : Nat) (iA : Nat → Nat → Nat) (c : Nat) : List Nat := (List.range nx).map fun r => iA r c

/-- the closest claimant of candidate `v` in column `c`: among the rows whose `c`-th neighbour is `v`,
    the (first) one at the smallest distance -/
def claimant (nx : Nat) (iA : Nat → Nat → Nat) (dA : Nat → Nat → Dist) (c v : Nat) : Option Nat :=
  closest (fun r => dA r c) (positionsOf (colList nx iA c) v)

theorem mem_colList {c r : Nat} (h : r < nx) : iA r c ∈ colList nx iA c :=
  List.mem_map.mpr ⟨r, List.mem_range.mpr h, rfl⟩

theorem mem_positionsOf_colList (c v r : Nat) :
    r ∈ positionsOf (colList nx iA c) v ↔ r < nx ∧ iA r c = v := by
  rw [mem_positionsOf]
  exact getElem?_map_range ..

theorem claimant_spec {c v r : Nat} (h : claimant nx iA dA c v = some r) :
    r < nx ∧ iA r c = v ∧ ∀ r', r' < nx → iA r' c = v → dle (dA r c) (dA r' c) = true := by
  obtain ⟨hmem, hmin⟩ := closest_spec h
  obtain ⟨hlt, hv⟩ := (mem_positionsOf_colList ..).mp hmem
  exact ⟨hlt, hv, fun r' hr' hv' => hmin r' ((mem_positionsOf_colList ..).mpr ⟨hr', hv'⟩)⟩

theorem claimant_isSome (iA : Nat → Nat → Nat) (dA : Nat → Nat → Dist) (c : Nat) {r' : Nat} (hr : r' < nx) :
    ∃ r, claimant nx iA dA c (iA r' c) = some r :=
  closest_isSome_of_mem ((mem_positionsOf_colList ..).mpr ⟨hr, rfl⟩)

theorem mem_closestRows_uniqueInds (c r : Nat) :
    r ∈ closestRows uniqueInds nx (fun r => iA r c) (fun r => dA r c) ↔
      r < nx ∧ claimant nx iA dA c (iA r c) = some r := by
  constructor
  · intro h
    obtain ⟨hlt, p, hp, hp1, hpc⟩ := closestRows_spec uniqueInds_occSound h
    obtain ⟨v, _, rfl⟩ := List.mem_map.mp hp
    obtain rfl : v = iA r c := hp1
    exact ⟨hlt, hpc⟩
  · rintro ⟨hlt, hc⟩
    exact List.mem_filterMap.mpr
      ⟨(iA r c, _), List.mem_map.mpr ⟨iA r c, (mem_uniqueVals _ _).mpr (mem_colList hlt), rfl⟩, hc⟩

theorem mem_freeVals_uniqueInds (c : Nat) (sel : List Nat) (v : Nat) :
    v ∈ freeVals uniqueInds nx (fun r => iA r c) sel ↔ v ∈ colList nx iA c ∧ v ∉ sel := by
  simp [mem_freeVals, uniqueInds, colList, Function.comp_def, mem_uniqueVals]

theorem M_stepCol_uniqueInds (dA : Nat → Nat → Dist) {s : St} (h : Inv nx iA s) (c r : Nat) :
    M (stepCol uniqueInds nx (fun r => iA r s.cols.length) (fun r => dA r s.cols.length) s).cols c r = true ↔
      M s.cols c r = true ∨
      (c = s.cols.length ∧ r < nx ∧ claimant nx iA dA c (iA r c) = some r ∧
        (∀ c' r', M s.cols c' r' = true → iA r' c' ≠ iA r c) ∧ ∀ c', M s.cols c' r = false) := by
  rw [M_stepCol_iff]
  refine or_congr_right (and_congr_right fun hc => and_congr_right fun h1 => ?_)
  subst hc
  -- a candidate is free iff no mark holds it
  rw [mem_closestRows_uniqueInds, mem_freeVals_uniqueInds, h.mem_selected_iff]
  simp only [h1, true_and, mem_colList h1, not_exists, not_and, ne_eq]

theorem M_runCols_le {K' : Nat} (h : K' ≤ K) (c r : Nat) :
    M (runCols U nx iA dA K').cols c r = (decide (c < K') && M (runCols U nx iA dA K).cols c r) := by
  by_cases hc : c < K'
  · simp only [hc, decide_true, Bool.true_and]
    induction h with
    | refl => rfl
    | step hK ih =>
      rw [ih, runCols_succ]
      simp [stepCol, M_append, runCols_length, Nat.ne_of_lt (Nat.lt_of_lt_of_le hc hK)]
  · rw [M_of_le (by rw [runCols_length]; omega)]
    simp [hc]

theorem M_runCols_greedy {c : Nat} (hc : c < K) (r : Nat) :
    M (runCols uniqueInds nx iA dA K).cols c r = true ↔
      r < nx ∧ claimant nx iA dA c (iA r c) = some r ∧
      (∀ c' r', c' < c → M (runCols uniqueInds nx iA dA K).cols c' r' = true → iA r' c' ≠ iA r c) ∧
      ∀ c', c' < c → M (runCols uniqueInds nx iA dA K).cols c' r = false := by
  -- column `c` is written by step `c`, from the matrix of the columns before it
  have hstep := M_stepCol_uniqueInds dA (s := runCols uniqueInds nx iA dA c) (Inv_runCols uniqueInds_occSound) c r
  rw [runCols_length, ← runCols_succ, M_runCols_le (Nat.succ_le_of_lt hc)] at hstep
  simpa only [ne_eq, Nat.succ_eq_add_one, Nat.lt_add_one, decide_true, Bool.true_and,
    M_runCols_le (Nat.le_of_lt hc), Nat.lt_irrefl, decide_false, Bool.false_and, Bool.false_eq_true,
    Bool.and_eq_true, decide_eq_true_eq, and_imp, Bool.and_eq_false_imp, true_and, false_or] using hstep

theorem M_runCols_zero (hK : 0 < K) (r : Nat) :
    M (runCols uniqueInds nx iA dA K).cols 0 r = true ↔ r < nx ∧ claimant nx iA dA 0 (iA r 0) = some r := by
  simp [M_runCols_greedy hK r]

end

/-! ### the contract of the query oracle -/

/-- What `cKDTree(y).query(x, k=K, distance_upper_bound=bound)` returns (validated on the real library on
    every run through `wfCheck`, which is this predicate in executable form). -/
structure WFQuery (D : List (List Dist)) (inds : List (List Nat)) (ny K : Nat) (bound : Dist) : Prop where
  rows : D.length = inds.length
  widthD : ∀ r, r < inds.length → (D[r]!).length = K
  widthI : ∀ r, r < inds.length → (inds[r]!).length = K
  /-- an index is a row of `y` or the padding value `ny` -/
  le_ny : ∀ r c, r < inds.length → c < K → indsAt inds r c ≤ ny
  /-- real neighbours have finite distances, padding has distance `inf` -/
  finite_iff : ∀ r c, r < inds.length → c < K → (indsAt inds r c < ny ↔ (dAt D r c).isSome = true)
  nonneg : ∀ r c, r < inds.length → c < K → dle (some 0) (dAt D r c) = true
  /-- no reported neighbour is farther away than the bound -/
  within : ∀ r c, r < inds.length → c < K → (dAt D r c).isSome = true → dle (dAt D r c) bound = true
  /-- distances do not decrease along a row (padding last) -/
  sorted : ∀ r c, r < inds.length → c + 1 < K → dle (dAt D r c) (dAt D r (c + 1)) = true
  /-- the real neighbours of a row are distinct -/
  distinct : ∀ r c c', r < inds.length → c' < c → c < K → indsAt inds r c' < ny → indsAt inds r c' ≠ indsAt inds r c

theorem wfCheck_iff (D : List (List Dist)) (inds : List (List Nat)) (ny K : Nat) (bound : Dist) :
    wfCheck D inds ny K bound = true ↔ WFQuery D inds ny K bound := by
  -- the two cell tests that are not literally the field: `a == b` on Booleans, and `isNone ∨ …` for `isSome → …`
  have hfin : ∀ (i : Nat) (x : Dist), (decide (i < ny) == x.isSome) = true ↔ (i < ny ↔ x.isSome = true) := by
    intro i x; cases x <;> simp
  have hwithin : ∀ x : Dist, (x.isNone = true ∨ dle x bound = true) ↔ (x.isSome = true → dle x bound = true) := by
    intro x; cases x <;> simp
  unfold wfCheck rowOk
  simp only [Bool.and_eq_true, beq_iff_eq, List.all_eq_true, List.mem_range, decide_eq_true_eq,
    Bool.or_eq_true, bne_iff_ne, ne_eq, hfin, hwithin]
  constructor
  · rintro ⟨h0, h⟩
    exact {
      rows := h0
      widthD := fun r hr => (h r hr).1.1
      widthI := fun r hr => (h r hr).1.2
      le_ny := fun r c hr hc => ((h r hr).2 c hc).1.1.1.1.1
      finite_iff := fun r c hr hc => ((h r hr).2 c hc).1.1.1.1.2
      nonneg := fun r c hr hc => ((h r hr).2 c hc).1.1.1.2
      within := fun r c hr hc => ((h r hr).2 c hc).1.1.2
      sorted := fun r c hr hc => ((h r hr).2 c (by omega)).1.2 hc
      distinct := fun r c c' hr hc' hc => ((h r hr).2 c hc).2 c' hc' }
  · intro w
    exact ⟨w.rows, fun r hr => ⟨⟨w.widthD r hr, w.widthI r hr⟩, fun c hc =>
      ⟨⟨⟨⟨⟨w.le_ny r c hr hc, w.finite_iff r c hr hc⟩, w.nonneg r c hr hc⟩, w.within r c hr hc⟩, w.sorted r c hr⟩,
        fun c' hc' => w.distinct r c c' hr hc' hc⟩⟩⟩

/-! ### real neighbours sit in the first `ny` columns (pigeonhole) -/

theorem length_le_of_nodup_lt (n : Nat) (l : List Nat) (hnd : l.Nodup) (h : ∀ x ∈ l, x < n) : l.length ≤ n := by
  have := hnd.length_le_of_subset (l₂ := List.range n) fun x hx => List.mem_range.mpr (h x hx)
  rwa [List.length_range] at this

theorem isSome_of_dle {a b : Dist} (h : dle a b = true) (hb : b.isSome = true) : a.isSome = true := by
  cases a with
  | some _ => rfl
  | none => cases b <;> simp [dle, dlt] at h hb

theorem real_prefix {D : List (List Dist)} {inds : List (List Nat)} {ny K : Nat} {bound : Dist}
    (h : WFQuery D inds ny K bound) {r c : Nat} (hr : r < inds.length) (hc : c < K)
    (hv : indsAt inds r c < ny) : ∀ c', c' ≤ c → indsAt inds r c' < ny := by
  intro c' hc'
  induction hc' with
  | refl => exact hv
  | step _ ih =>
    have hc' := Nat.lt_of_succ_lt hc
    exact ih hc' ((h.finite_iff r _ hr hc').mpr (isSome_of_dle (h.sorted r _ hr hc) ((h.finite_iff r _ hr hc).mp hv)))

theorem col_lt_ny_of_real {D : List (List Dist)} {inds : List (List Nat)} {ny K : Nat} {bound : Dist}
    (h : WFQuery D inds ny K bound) {r c : Nat} (hr : r < inds.length) (hc : c < K)
    (hv : indsAt inds r c < ny) : c < ny := by
  have hreal := real_prefix h hr hc hv
  -- the entries in columns `0 … c` are `c + 1` distinct rows of `y`
  have hnd : ((List.range (c + 1)).map (indsAt inds r)).Nodup := by
    refine List.Pairwise.map _ ?_ (List.Pairwise.and_mem.mp List.pairwise_lt_range)
    intro a b ⟨_, hb, hab⟩
    have hb' := List.mem_range.mp hb
    exact h.distinct r b a hr hab (Nat.lt_of_lt_of_le hb' hc) (hreal a (Nat.le_of_lt_succ (Nat.lt_trans hab hb')))
  have hlen := length_le_of_nodup_lt ny _ hnd fun x hx => by
    obtain ⟨c', hc', rfl⟩ := List.mem_map.mp hx
    exact hreal c' (Nat.le_of_lt_succ (List.mem_range.mp hc'))
  rwa [List.length_map, List.length_range] at hlen

end Kdt
