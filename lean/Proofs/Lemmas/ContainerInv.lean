/- The coherence invariant of the container (`Inv`), the shape shared by all its operations as an
   induction principle (`step_induct`), what follows from it for one step (the invariant, the frame,
   the metrics and the selection an operation leaves alone), and the closed form of `computeMetric` and
   `pickSubset` when they succeed. -/
import Proofs.Lemmas.Container
import Proofs.Lemmas.ContainerSlices

namespace Container

/-! ### invariant -/

structure SelOK (K : Nat) (sel : Sel) : Prop where
  len : sel.subset.length = K
  rank : sel.subset = subsetVector (sel.subset.map fun j => decide (0 ≤ j))
  chain : sel.chain = chainVector sel.subset

/-- The coherence invariant.  `cv`: what the constructor leaves (`init_cvOK`), and no operation writes it;
    `lens`: the length guard of `add_cycle_metric`; `names`: `metrics` is a dict; `sel`: `pick_cycle_subset`
    sets conditions, subset vector and chain vector together. -/
structure Inv (s : State) : Prop where
  cv : CvOK s.cv s.K
  lens : ∀ e ∈ s.metrics, e.2.length = s.K
  names : (s.metrics.map (·.1)).Nodup
  sel : ∀ sel, s.sel = some sel → SelOK s.K sel

def HasGood (s : State) : Prop := (sget s.metrics isGoodName).isSome = true

def Frame (s s' : State) : Prop := s'.cv = s.cv ∧ s'.K = s.K ∧ s'.phase = s.phase ∧ s'.thr = s.thr ∧ s'.cache = s.cache

theorem Frame.refl (s : State) : Frame s s := ⟨rfl, rfl, rfl, rfl, rfl⟩
theorem Frame.trans {a b c : State} (h1 : Frame a b) (h2 : Frame b c) : Frame a c := by
  obtain ⟨a1, a2, a3, a4, a5⟩ := h1
  obtain ⟨b1, b2, b3, b4, b5⟩ := h2
  exact ⟨b1.trans a1, b2.trans a2, b3.trans a3, b4.trans a4, b5.trans a5⟩

/-- the metric names an operation stores under (besides `chain_ind`, which `pickSubset` rewrites itself) -/
def Op.stores : Op → List Name
  | .computeMetric name _ _ _ => [name]
  | .addMetric name _ => [name]
  | .addFromInt name _ => [name]
  | .computeTimings => ["start_sample".toList, "stop_sample".toList, "duration".toList]
  | .computeChainMetric name _ _ _ => [name]
  | .computeChainTimings => ["chain_start".toList, "chain_end".toList, "chain_len_samples".toList,
      "chain_len_cycles".toList, "chain_position".toList]
  | _ => []

def Op.writes : Op → List Name
  | .pickSubset _ => [chainIndName]
  | op => op.stores

theorem Op.pickSubset_or_writes_eq_stores (op : Op) :
    (∃ c, op = .pickSubset c) ∨ (∀ c, op ≠ .pickSubset c) ∧ op.writes = op.stores := by
  cases op
  case pickSubset c => exact .inl ⟨c, rfl⟩
  all_goals exact .inr ⟨fun _ e => Op.noConfusion e, rfl⟩

def chainPositionName : Name := "chain_position".toList

/-! ### the shape of the primitives: the state stays, or one vector is stored -/

variable {s : State} {name : Name} {vals : List Rat} {f : List Rat → Rat} {mode : Mode}

theorem addMetric_ok {v : List Val} (hv : v.length = s.K) :
    addMetric s name v = ({ s with metrics := sset s.metrics name v }, .ok .done) := by
  simp [addMetric, hv]

theorem addMetric_induct {P : State → Prop} {v : List Val} (hs : P s)
    (hstore : v.length = s.K → P { s with metrics := sset s.metrics name v }) : P (addMetric s name v).1 := by
  unfold addMetric
  split
  · exact hstore ‹_›
  · exact hs

theorem addFromInt_preserves (P : State → Prop) (s : State) (name src : Name) (hs : P s)
    (hadd : ∀ v, P (addMetric s name v).1) : P (addFromInt s name src).1 := by
  unfold addFromInt
  split
  · exact hs
  · exact hadd _

theorem computeMetric_preserves {P : State → Prop} (hs : P s) (hadd : ∀ v, P (addMetric s name v).1) :
    P (computeMetric s name vals f mode).1 := by
  unfold computeMetric
  split
  · exact hs
  · exact hadd _

theorem computeChainMetric_preserves {P : State → Prop} {asInt : Bool} (hs : P s) (hadd : ∀ v, P (addMetric s name v).1) :
    P (computeChainMetric s name vals f asInt).1 := by
  unfold computeChainMetric
  split
  · exact hs
  · exact hadd _

/-- `compute_position_in_chain` has no length guard of its own: the vector it stores has one entry per
    entry of the subset vector, which is `K` in a coherent state. -/
theorem computePositionInChain_induct {P : State → Prop} (hs : P s)
    (hstore : ∀ v, (Inv s → v.length = s.K) → P { s with metrics := sset s.metrics chainPositionName v }) :
    P (computePositionInChain s).1 := by
  unfold computePositionInChain
  split
  · exact hs
  · rename_i sel hsel
    exact hstore _ fun hI => by simp [nanToMinusOne, projSubsetToCycles, (hI.sel sel hsel).len]

theorem seqOps_preserves {P : State → Prop} {ops : List (State → State × Except Err Out)}
    (hops : ∀ o ∈ ops, ∀ s, P s → P (o s).1) {s : State} (h : P s) : P (seqOps s ops).1 := by
  induction ops generalizing s with
  | nil => exact h
  | cons o t ih =>
    simp only [seqOps]
    have ho := hops o (by simp) s h
    cases hr : o s with
    | mk s' r =>
      rw [hr] at ho
      cases r with
      | error e => exact ho
      | ok x => exact ih (fun o' ho' => hops o' (by simp [ho'])) ho

/-! ### the shape of every operation -/

/-- The state after `step` arises from the state before by replacing the selection (only `pickSubset`,
    only when its conditions evaluate) and then by a sequence of stores `metrics := sset metrics n v` with
    `n ∈ op.writes` and, in a coherent state, `v.length = K`. -/
theorem step_induct (F : List Char → Option Rat) (P : State → Prop) (s : State) (op : Op) (hs : P s)
    (hsel : ∀ conds valids, op = .pickSubset conds → matching F s.metrics conds = .ok valids →
      P { s with sel := some { conds, subset := subsetVector valids, chain := chainVector (subsetVector valids) } })
    (hstore : ∀ t n v, P t → n ∈ op.writes → (Inv t → v.length = t.K) →
      P { t with metrics := sset t.metrics n v }) :
    P (step F s op).1 := by
  have hadd : ∀ t n v, P t → n ∈ op.writes → P (addMetric t n v).1 := fun t n v ht hn =>
    addMetric_induct ht fun hv => hstore t n v ht hn fun _ => hv
  cases op with
  | computeMetric name vals f mode =>
    exact computeMetric_preserves hs fun v => hadd s name v hs (by simp [Op.writes, Op.stores])
  | addMetric name vals => exact hadd s name vals hs (by simp [Op.writes, Op.stores])
  | addFromInt name src =>
    exact addFromInt_preserves P _ _ _ hs fun v => hadd s name v hs (by simp [Op.writes, Op.stores])
  | computeTimings =>
    refine seqOps_preserves ?_ hs
    intro o ho t ht
    simp only [List.mem_cons, List.not_mem_nil, or_false] at ho
    rcases ho with rfl | rfl | rfl
    -- the position of the name in `op.writes`, spelled out: evaluating string literals (`decide`, `simp`) is dear
    · exact computeMetric_preserves ht fun v => hadd t _ v ht (.head _)
    · exact computeMetric_preserves ht fun v => hadd t _ v ht (.tail _ (.head _))
    · exact computeMetric_preserves ht fun v => hadd t _ v ht (.tail _ (.tail _ (.head _)))
  | pickSubset conds =>
    simp only [step, pickSubset]
    split
    · exact hs
    · rename_i valids hm
      exact hadd _ _ _ (hsel conds valids rfl hm) (by simp [Op.writes])
  | computeChainMetric name vals f asInt =>
    exact computeChainMetric_preserves hs fun v => hadd s name v hs (by simp [Op.writes, Op.stores])
  | computeChainTimings =>
    have hcm : ∀ t name vals f, P t → name ∈ Op.computeChainTimings.writes → P (computeChainMetric t name vals f true).1 :=
      fun t name vals f ht hn => computeChainMetric_preserves ht fun v => hadd t name v ht hn
    refine seqOps_preserves ?_ hs
    intro o ho t ht
    simp only [List.mem_cons, List.not_mem_nil, or_false] at ho
    rcases ho with rfl | rfl | rfl | rfl | rfl
    · exact hcm t _ _ _ ht (.head _)
    · exact hcm t _ _ _ ht (.tail _ (.head _))
    · exact hcm t _ _ _ ht (.tail _ (.tail _ (.head _)))
    · exact hcm t _ _ _ ht (.tail _ (.tail _ (.tail _ (.head _))))
    · exact computePositionInChain_induct ht fun v hv =>
        hstore t _ v ht (.tail _ (.tail _ (.tail _ (.tail _ (.head _))))) hv
  | «export» m => simp only [step]; split <;> exact hs
  | «matching» conds => simp only [step]; split <;> exact hs

theorem matching_valids_length {F : List Char → Option Rat} (h : Inv s) {conds : List Cond} {v : List Bool}
    (hm : matching F s.metrics conds = .ok v) : v.length = s.K := by
  obtain ⟨g, _, hg, _, rfl⟩ := matching_ok hm
  simpa using h.lens _ (sget_mem hg)

theorem Inv.store (h : Inv s) {v : List Val} (hv : v.length = s.K) :
    Inv { s with metrics := sset s.metrics name v } :=
  ⟨h.cv, sset_lens h.lens hv, sset_nodup h.names, h.sel⟩

theorem step_inv (F : List Char → Option Rat) (s : State) (op : Op) (h : Inv s) : Inv (step F s op).1 := by
  refine step_induct F Inv s op h ?_ fun t n v ht _ hv => ht.store (hv ht)
  intro conds valids _ hm
  refine ⟨h.cv, h.lens, h.names, ?_⟩
  rintro _ ⟨⟩
  have hl := matching_valids_length h hm
  exact ⟨by simp [subsetVector, subsetFrom_length, hl], by simp [subsetVector, subsetFrom_support], rfl⟩

theorem step_frame (F : List Char → Option Rat) (s : State) (op : Op) : Frame s (step F s op).1 :=
  step_induct F (Frame s) s op (Frame.refl s) (fun _ _ _ _ => Frame.refl s) (fun _ _ _ ht _ _ => ht)

theorem step_good (F : List Char → Option Rat) (s : State) (op : Op) (h : HasGood s) : HasGood (step F s op).1 :=
  step_induct F HasGood s op h (fun _ _ _ _ => h) (fun _ _ _ ht _ _ => sget_sset_isSome ht)

theorem step_sget_other (F : List Char → Option Rat) (s : State) (op : Op) (n : Name) (hn : n ∉ op.writes) :
    sget (step F s op).1.metrics n = sget s.metrics n :=
  step_induct F (fun t => sget t.metrics n = sget s.metrics n) s op rfl (fun _ _ _ _ => rfl)
    (fun _ n' _ ht hn' _ => (sget_sset_other (by rintro rfl; exact hn hn')).trans ht)

theorem step_sel_other (F : List Char → Option Rat) (s : State) (op : Op) (hp : ∀ c, op ≠ .pickSubset c) :
    (step F s op).1.sel = s.sel :=
  step_induct F (fun t => t.sel = s.sel) s op rfl (fun c _ e _ => absurd e (hp c)) (fun _ _ _ ht _ _ => ht)

/-! ### the operations that succeed -/

/-- the stored vector is the label-lookup one (`cycleStatV false`) whatever `s.cache` -/
theorem computeMetric_ok (h : Inv s) (hv : vals.length = s.cv.length) :
    computeMetric s name vals f mode =
      ({ s with metrics := sset s.metrics name (cycleStatV false mode f s.thr s.phase s.cv vals) }, .ok .done) := by
  unfold computeMetric
  rw [cycleStat_eq_ok hv, cycleStatV_eq_lookup h.cv]
  exact addMetric_ok (cycleStatV_length h.cv.1)

theorem computeMetric_cache_ok (h : Inv s) (hc : s.cache = true) :
    computeMetric s name vals f mode =
      ({ s with metrics := sset s.metrics name (cycleStatV true mode f s.thr s.phase s.cv vals) }, .ok .done) := by
  unfold computeMetric
  have e : cycleStat s.cache mode f s.thr s.phase s.cv vals = .ok (cycleStatV true mode f s.thr s.phase s.cv vals) := by
    rw [hc]; exact cycleStat_cache_ok
  rw [e]
  exact addMetric_ok (cycleStatV_length h.cv.1)

theorem pickSubset_ok (F : List Char → Option Rat) (h : Inv s) (conds : List Cond) (valids : List Bool)
    (hm : matching F s.metrics conds = .ok valids) :
    pickSubset F s conds =
      ({ s with
          sel := some { conds, subset := subsetVector valids, chain := chainVector (subsetVector valids) }
          metrics := sset s.metrics chainIndName (chainInd (subsetVector valids) (chainVector (subsetVector valids))) },
        .ok .done) := by
  simp only [pickSubset, hm]
  exact addMetric_ok (by simp [chainInd_length, subsetVector, subsetFrom_length, matching_valids_length h hm])

end Container
