/- Lemmas about EmdModel.Phase: `amplitude_normalise` (length, and which samples are positive, under positive
   envelopes) and the sign mask of `quadrature_transform`. -/
import Proofs.Lemmas.Phase

namespace Phase

/-! ### amplitude_normalise -/

/-- every envelope the oracle returns is positive everywhere: an assumption on `interp_envelope(mode='combined')`,
    met by the pchip interpolants and not by `splrep` (`C09.amplitudeNormalise_sign_needs_posEnv`) -/
def PosEnv (E : Nat → List Rat → Option (List Rat)) : Prop :=
  ∀ k y env, E k y = some env → ∀ e ∈ env, 0 < e

theorem div_env_sign {x env : List Rat} (hl : env.length = x.length) (hp : ∀ e ∈ env, 0 < e) :
    (List.zipWith (· / ·) x env).length = x.length ∧
    ∀ i, 0 < getR (List.zipWith (· / ·) x env) i ↔ 0 < getR x i := by
  have hlen : (List.zipWith (· / ·) x env).length = x.length := by rw [List.length_zipWith, hl, Nat.min_self]
  refine ⟨hlen, fun i => ?_⟩
  by_cases hi : i < x.length
  · have hie : i < env.length := hl ▸ hi
    rw [getR_zipWith _ hi hie, getR_of_lt hi, lt_div_iff₀ (hp _ (List.getElem_mem hie)), zero_mul]
  · rw [getR_of_ge (hlen ▸ Nat.le_of_not_lt hi), getR_of_ge (Nat.le_of_not_lt hi)]

theorem anLoop_sign (E : Nat → List Rat → Option (List Rat)) (thresh : Rat)
    (hE : ∀ k y env, E k y = some env → env.length = y.length) (hp : PosEnv E) :
    ∀ (fuel k : Nat) (x env : List Rat), env.length = x.length → (∀ e ∈ env, 0 < e) →
      (anLoop E thresh fuel k x env).length = x.length ∧
      ∀ i, 0 < getR (anLoop E thresh fuel k x env) i ↔ 0 < getR x i := by
  intro fuel
  induction fuel with
  | zero => intro k x env _ _; exact ⟨rfl, fun _ => Iff.rfl⟩
  | succ n ih =>
    intro k x env hl hpe
    have hdiv := div_env_sign hl hpe
    unfold anLoop
    simp only []
    split
    · exact hdiv
    · rename_i env' he
      split
      · exact hdiv
      · obtain ⟨h1, h2⟩ := ih (k + 1) _ env' (hE _ _ _ he) (hp _ _ _ he)
        exact ⟨h1.trans hdiv.1, fun i => (h2 i).trans (hdiv.2 i)⟩

/-! ### quadrature mask -/

theorem diff_length : ∀ x : List Rat, (diff x).length = x.length - 1
  | [] | [_] => rfl
  | _ :: b :: t => by rw [diff, List.length_cons, diff_length (b :: t)]; rfl

theorem quadMask_length : ∀ {x : List Rat}, 2 ≤ x.length → (quadMask x).length = x.length
  | a :: b :: t, _ => by
    simp only [quadMask, diff, List.map_cons, List.getLast?_cons, List.length_append, List.length_cons,
      List.length_map, diff_length, List.length_nil]
    omega

theorem quadMask_values (x : List Rat) : ∀ v ∈ quadMask x, v = -1 ∨ v = 1 := by
  intro v hv
  -- the entry appended at the end repeats the last sign of the differences
  have hd : v ∈ (diff x).map fun v => if 0 < v then (-1 : Rat) else 1 := by
    unfold quadMask at hv
    simp only [] at hv
    split at hv
    · rename_i l hl
      rcases List.mem_append.mp hv with h | h
      · exact h
      · rw [List.mem_singleton.mp h]; exact List.mem_of_getLast? hl
    · cases hv
  obtain ⟨d, _, rfl⟩ := List.mem_map.mp hd
  split
  · exact Or.inl rfl
  · exact Or.inr rfl

/-- the mask only flips signs, so squaring removes it -/
theorem quadImag_sq {nX s q : List Rat} (hs : s.length = nX.length) (hq : quadImag? nX s = some q) :
    q.length = nX.length ∧ ∀ i, i < nX.length → getR q i * getR q i = getR s i * getR s i := by
  unfold quadImag? at hq
  split at hq
  · cases hq
  · rename_i hn
    cases hq
    have hml := quadMask_length (Nat.le_of_not_lt hn)
    refine ⟨by rw [List.length_zipWith, hs, hml, Nat.min_self], fun i hi => ?_⟩
    rw [getR_zipWith _ (hs ▸ hi) (hml ▸ hi), getR_of_lt (hs ▸ hi), mul_mul_mul_comm]
    rcases quadMask_values nX _ (List.getElem_mem (hml ▸ hi)) with h | h
    · rw [h, neg_mul_neg, mul_one, mul_one]
    · rw [h, mul_one, mul_one]

end Phase
