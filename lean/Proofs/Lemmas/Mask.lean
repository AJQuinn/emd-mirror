/- EmdModel.Mask with the pools removed: `get_next_imf_mask` under any schedule is the phase average
   (`getNextImfMaskPool_eq`), what an `.ok` of `mask_sift` says about its loop (`maskSift_eq_ok`); the waveform masks. -/
import EmdModel.Mask
import Proofs.Lemmas.EnsemblePool
import Proofs.Lemmas.MaskSig

namespace Mask
open Pool

/-- the IMF of `get_next_imf_mask`, pool removed: the mean over the phases of `X (x + mᵢ) − mᵢ` -/
def phaseAverage (X : Sig → Sig × Bool) (mask : Nat → Sig) (p : Nat) (x : Sig) : Sig :=
  Ensemble.meanOver x.length ((List.range p).map fun i => Sig.sub (X (Sig.add x (mask i))).1 (mask i))

theorem getNextImfMaskPool_eq {σ : Schedule} {nproc : Nat} {X : Sig → Sig × Bool} {mask : Nat → Sig} {p : Nat}
    {x : Sig} (hσ : σ.Valid p nproc) :
    getNextImfMaskPool σ X mask p x
      = (phaseAverage X mask p x, (List.range p).any fun i => (X (Sig.add x (mask i))).2) := by
  unfold getNextImfMaskPool phaseAverage
  simp only []
  rw [runPool_eq_map (by simp) hσ]
  simp [List.zipWith_map, List.zipWith_self, List.any_map, Function.comp_def]

theorem getNextImfMask_eq (X : Sig → Sig × Bool) (mask : Nat → Sig) (p : Nat) (x : Sig) :
    getNextImfMask X mask p x
      = (phaseAverage X mask p x, (List.range p).any fun i => (X (Sig.add x (mask i))).2) :=
  getNextImfMaskPool_eq (roundRobin_valid p 1 (by omega))

theorem getNextImfMask_zero_masks (X : Sig → Sig × Bool) (mask : Nat → Sig) (p : Nat) (x : Sig) (hp : 0 < p)
    (hm : ∀ i, i < p → mask i = Sig.zeros x.length) (hX : (X x).1.length = x.length) :
    getNextImfMask X mask p x = X x := by
  have hall : ((List.range p).map fun i => (Sig.sub (X (Sig.add x (mask i))).1 (mask i), (X (Sig.add x (mask i))).2))
      = List.replicate p (X x) := by
    rw [List.eq_replicate_iff]
    refine ⟨by simp, fun b hb => ?_⟩
    obtain ⟨i, hi, rfl⟩ := List.mem_map.mp hb
    rw [hm i (List.mem_range.mp hi), Sig.add_zeros, ← hX, Sig.sub_zeros]
  have h1 := congrArg (List.map Prod.fst) hall
  have h2 := congrArg (List.any · Prod.snd) hall
  simp only [List.map_map, List.any_map, Function.comp_def, List.map_replicate, List.any_replicate,
    Nat.ne_of_gt hp, if_false] at h1 h2
  rw [getNextImfMask_eq, phaseAverage, h1, h2, Ensemble.meanOver_replicate x.length p _ hp hX]

/-! ### the mask_sift loop -/

theorem maskSift_eq_map (σ : Nat → Schedule) (X : Sig → Sig × Bool) (unit : Rat → Nat → Nat → Sig) (std : Sig → Rat)
    (cfg : Cfg) (src : FreqSrc) (cap : Nat) (x : Sig) :
    maskSift σ X unit std cfg src cap x
      = (maskSiftLoop σ X unit std cfg (maskFreqs src cap).2 x 0 [] (maskFreqs src cap).1).map
          fun cols => (cols, (maskFreqs src cap).1) := by
  unfold maskSift
  simp only []
  cases maskSiftLoop σ X unit std cfg (maskFreqs src cap).2 x 0 [] (maskFreqs src cap).1 <;> rfl

theorem maskSift_eq_ok {σ : Nat → Schedule} {X : Sig → Sig × Bool} {unit : Rat → Nat → Nat → Sig} {std : Sig → Rat}
    {cfg : Cfg} {src : FreqSrc} {cap : Nat} {x : Sig} {cols : List Sig} {freqs : List Rat}
    (h : maskSift σ X unit std cfg src cap x = .ok (cols, freqs)) :
    freqs = (maskFreqs src cap).1 ∧
      maskSiftLoop σ X unit std cfg (maskFreqs src cap).2 x 0 [] (maskFreqs src cap).1 = .ok cols := by
  rw [maskSift_eq_map] at h
  cases hl : maskSiftLoop σ X unit std cfg (maskFreqs src cap).2 x 0 [] (maskFreqs src cap).1 with
  | ok out => rw [hl] at h; cases h; exact ⟨rfl, rfl⟩
  | error e => rw [hl] at h; cases h

/-! ### the documented waveform -/

theorem unitOf_length (cosTurn : Rat → Rat) (n : Nat) (f : Rat) (p i : Nat) : (unitOf cosTurn n f p i).length = n := by
  simp [unitOf]

theorem sval_unitOf (cosTurn : Rat → Rat) (n : Nat) (f : Rat) (p i t : Nat) (ht : t < n) :
    Sig.sval (unitOf cosTurn n f p i) t = cosTurn (f * (t : Rat) + maskPhase p i) := by
  simp [Sig.sval, unitOf, ht]

theorem layerMask_unitOf (cosTurn : Rat → Rat) (n : Nat) (f a : Rat) (p i : Nat) :
    layerMask (unitOf cosTurn n) f a p i = waveMask cosTurn n f a p i := rfl

end Mask
