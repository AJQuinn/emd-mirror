/- Odd-reflection padding (`padOddOnce`, numpy's chunk loop `padOdd`), the loop test on ordered locations and `padEdge`.
   The right reflection is the mirror image (`mirror`) of the left one; its facts are derived from the left side's. -/
import Proofs.Lemmas.ExtremaPeaks

namespace Extrema

/-- an order-like relation that odd reflection `v ↦ c - v` reverses:
    instances are `<` and "at least `d` apart" -/
structure ReflRel (R : Rat → Rat → Prop) : Prop where
  trans : ∀ {a b c : Rat}, R a b → R b c → R a c
  flip : ∀ {a b : Rat} (c : Rat), R a b → R (c - b) (c - a)

theorem reflRel_lt : ReflRel (· < ·) where
  trans := fun h1 h2 => by grind
  flip := fun c h => by grind

theorem reflRel_sep (d : Rat) (hd : 0 ≤ d) : ReflRel (fun a b => a + d ≤ b) where
  trans := fun h1 h2 => by grind
  flip := fun c h => by grind

variable {R : Rat → Rat → Prop}

/-! ### the left reflection; the right one is its mirror image -/

/-- mirror image of a list of locations about the centre `(n-1)/2` of an `n`-sample signal
    (`v ↦ n-1-v`), listed in increasing order again -/
def mirror (n : Nat) (l : List Rat) : List Rat := (l.map fun v => (n : Rat) - 1 - v).reverse

theorem mirror_length (n : Nat) (l : List Rat) : (mirror n l).length = l.length := by simp [mirror]

theorem mirror_append (n : Nat) (a b : List Rat) : mirror n (a ++ b) = mirror n b ++ mirror n a := by
  simp [mirror, List.map_append, List.reverse_append]

theorem mirror_mirror (n : Nat) (l : List Rat) : mirror n (mirror n l) = l := by
  have : ∀ v : Rat, (n : Rat) - 1 - ((n : Rat) - 1 - v) = v := fun v => by grind
  simp [mirror, List.map_reverse, List.map_map, Function.comp_def, this]

theorem mirror_pairwise (hR : ReflRel R) (n : Nat) {l : List Rat} (h : l.Pairwise R) : (mirror n l).Pairwise R := by
  unfold mirror
  rw [List.pairwise_reverse, List.pairwise_map]
  exact h.imp fun hab => hR.flip _ hab

theorem leftRefl_mirror (n c : Nat) (l : List Rat) : leftRefl c (mirror n l) = mirror n (rightRefl c l) := by
  unfold rightRefl
  cases h : l.reverse with
  | nil =>
    obtain rfl : l = [] := by simpa using h
    rfl
  | cons z r =>
    have hm : mirror n l = ((n : Rat) - 1 - z) :: r.map (fun v => (n : Rat) - 1 - v) := by
      unfold mirror; rw [← List.map_reverse, h]; rfl
    rw [hm]
    simp only [leftRefl, mirror, List.map_take, List.map_reverse, List.map_map]
    refine congrArg List.reverse (congrArg (List.take c) (List.map_congr_left fun v _ => ?_))
    grind

theorem rightRefl_eq (n c : Nat) (l : List Rat) : rightRefl c l = mirror n (leftRefl c (mirror n l)) := by
  rw [leftRefl_mirror, mirror_mirror]

theorem rightRefl_mirror (n c : Nat) (l : List Rat) : rightRefl c (mirror n l) = mirror n (leftRefl c l) := by
  rw [rightRefl_eq n, mirror_mirror]

theorem padOddOnce_mirrorImage (n c : Nat) (l : List Rat) :
    padOddOnce c (mirror n l) = mirror n (padOddOnce c l) := by
  unfold padOddOnce
  rw [mirror_append, mirror_append, leftRefl_mirror, rightRefl_mirror, List.append_assoc]

theorem leftExt_pairwise (hR : ReflRel R) (c : Nat) {l : List Rat} (h : l.Pairwise R) :
    (leftRefl c l ++ l).Pairwise R := by
  cases l with
  | nil => exact List.Pairwise.nil
  | cons a t =>
    have hat := (List.pairwise_cons.mp h).1
    refine List.pairwise_append.mpr ⟨?_, h, fun u hu v hv => ?_⟩
    · unfold leftRefl
      rw [List.pairwise_map, List.pairwise_reverse]
      exact ((List.pairwise_cons.mp h).2.sublist (List.take_sublist c t)).imp fun hxy => hR.flip (2 * a) hxy
    · simp only [leftRefl, List.mem_map, List.mem_reverse] at hu
      obtain ⟨y, hy, rfl⟩ := hu
      -- `2a - y` lies before `a = 2a - a`, and `a` before the rest
      have h1 : R (2 * a - y) (2 * a - a) := hR.flip (2 * a) (hat y (List.mem_of_mem_take hy))
      rw [show 2 * a - a = a by grind] at h1
      rcases List.mem_cons.mp hv with rfl | hv
      · exact h1
      · exact hR.trans h1 (hat v hv)

theorem rightExt_pairwise (hR : ReflRel R) (c : Nat) {l : List Rat} (h : l.Pairwise R) :
    (l ++ rightRefl c l).Pairwise R := by
  have e : l ++ rightRefl c l = mirror 0 (leftRefl c (mirror 0 l) ++ mirror 0 l) := by
    rw [mirror_append, mirror_mirror, ← rightRefl_eq]
  rw [e]
  exact mirror_pairwise hR 0 (leftExt_pairwise hR c (mirror_pairwise hR 0 h))

theorem padOddOnce_pairwise (hR : ReflRel R) (c : Nat) {l : List Rat} (h : l.Pairwise R) :
    (padOddOnce c l).Pairwise R := by
  have hL := List.pairwise_append.mp (leftExt_pairwise hR c h)
  have hR' := List.pairwise_append.mp (rightExt_pairwise hR c h)
  refine List.pairwise_append.mpr ⟨leftExt_pairwise hR c h, hR'.2.1, fun u hu w hw => ?_⟩
  rcases List.mem_append.mp hu with hu | hu
  · cases l with
    | nil => simp [leftRefl] at hu
    | cons a t => exact hR.trans (hL.2.2 u hu a List.mem_cons_self) (hR'.2.2 a List.mem_cons_self w hw)
  · exact hR'.2.2 u hu w hw

theorem leftRefl_length {c : Nat} {l : List Rat} (hc : c < l.length) : (leftRefl c l).length = c := by
  match l, hc with
  | a :: t, hc =>
    rw [leftRefl, List.length_map, List.length_reverse, List.length_take, Nat.min_eq_left (Nat.le_of_lt_succ hc)]

theorem rightRefl_length {c : Nat} {l : List Rat} (hc : c < l.length) : (rightRefl c l).length = c := by
  rw [rightRefl_eq 0, mirror_length, leftRefl_length (by rwa [mirror_length])]

theorem padOddOnce_length (c : Nat) (l : List Rat) (hc : c < l.length) :
    (padOddOnce c l).length = l.length + 2 * c := by
  rw [padOddOnce, List.length_append, List.length_append, leftRefl_length hc, rightRefl_length hc, Nat.two_mul,
    Nat.add_comm c, Nat.add_assoc]

/-! ### index form of one reflection chunk (offsets instead of truncated differences) -/

theorem padOddOnce_mid (c : Nat) (l : List Rat) (hc : c < l.length) (i : Nat) (hi : i < l.length) :
    (padOddOnce c l)[c + i]? = l[i]? := by
  rw [padOddOnce, List.append_assoc, List.getElem?_append_right (by rw [leftRefl_length hc]; exact Nat.le_add_right c i),
    leftRefl_length hc, Nat.add_sub_cancel_left, List.getElem?_append_left hi]

/-- entry `j` of a chunk of `j + k` values: the `k`-th value to the left of the block -/
theorem padOddOnce_left {j k : Nat} {l : List Rat} (hc : j + k < l.length) (hk : 1 ≤ k) :
    (padOddOnce (j + k) l)[j]? = some (2 * at' l 0 - at' l k) := by
  match l, k, hk with
  | a :: t, k + 1, _ =>
    have hct : j + (k + 1) ≤ t.length := Nat.le_of_lt_succ hc
    have hlen : (t.take (j + (k + 1))).length = j + (k + 1) := List.length_take_of_le hct
    -- entry `j` of the reversed block of `j + k + 1` values is entry `k` of the block
    rw [padOddOnce, leftRefl, List.append_assoc,
      List.getElem?_append_left (by rw [List.length_map, List.length_reverse, hlen]; omega), List.getElem?_map,
      List.getElem?_reverse' (j := k) (by rw [hlen]; omega), List.getElem?_take_of_lt (by omega),
      getElem?_eq_at' (Nat.lt_of_lt_of_le (by omega) hct)]
    rfl

theorem getElem?_mirror (n : Nat) {l : List Rat} {i m : Nat} (h : i + m + 1 = l.length) :
    (mirror n l)[i]? = l[m]?.map fun v => (n : Rat) - 1 - v := by
  rw [mirror, ← List.map_reverse, List.getElem?_map, List.getElem?_reverse' h]

theorem at'_mirror (n : Nat) {l : List Rat} {i m : Nat} (h : i + m + 1 = l.length) :
    at' (mirror n l) i = (n : Rat) - 1 - at' l m := by
  rw [at', List.getD_eq_getElem?_getD, getElem?_mirror n h, getElem?_eq_at' (by omega)]
  rfl

/-- the `k`-th value to the right of a block of `m + k + 1` values, entry `(j + k) + (m + k) + k` of a chunk of `j + k`:
    it is the `k`-th value to the left of the mirrored block -/
theorem padOddOnce_right {j k m : Nat} {l : List Rat} (hl : l.length = m + k + 1) (hc : j + k < l.length)
    (hk : 1 ≤ k) : (padOddOnce (j + k) l)[j + k + m + k + k]? = some (2 * at' l (m + k) - at' l m) := by
  have hc' : j + k < (mirror 0 l).length := by rwa [mirror_length]
  have e : ∀ n u v : Rat, n - 1 - (2 * (n - 1 - u) - (n - 1 - v)) = 2 * u - v := fun n u v => by grind
  rw [← mirror_mirror 0 (padOddOnce (j + k) l), ← padOddOnce_mirrorImage,
    getElem?_mirror 0 (m := j) (by rw [padOddOnce_length _ _ hc', mirror_length, hl]; omega), padOddOnce_left hc' hk,
    at'_mirror 0 (m := m + k) (by omega), at'_mirror 0 (m := m) (by omega), Option.map_some, e]

/-! ### chains of reflection chunks; numpy's loop -/

/-- `r` is obtained from `l` by a sequence of reflection chunks, each of `1 ≤ c < current length` values -/
inductive PadChain : List Rat → List Rat → Prop
  | refl (l : List Rat) : PadChain l l
  | step {l r : List Rat} (c : Nat) (hc : 1 ≤ c) (hlt : c < r.length) : PadChain l r → PadChain l (padOddOnce c r)

theorem PadChain.trans {a b c : List Rat} (h1 : PadChain a b) (h2 : PadChain b c) : PadChain a c := by
  induction h2 with
  | refl => exact h1
  | step c hc hlt _ ih => exact PadChain.step c hc hlt ih

theorem PadChain.pairwise {R : Rat → Rat → Prop} (hR : ReflRel R) {l r : List Rat} (h : PadChain l r)
    (hl : l.Pairwise R) : r.Pairwise R := by
  induction h with
  | refl => exact hl
  | step c _ _ _ ih => exact padOddOnce_pairwise hR c ih

theorem padOddAux_zero (m f : Nat) (l : List Rat) : padOddAux m f 0 l = l := by
  cases f <;> rfl

theorem padOddAux_succ (m f : Nat) {rem : Nat} (l : List Rat) (h0 : rem ≠ 0) :
    padOddAux m (f + 1) rem l =
      padOddAux m f (rem - min ((l.length - 1) / (m - 1) * (m - 1)) rem)
        (padOddOnce (min ((l.length - 1) / (m - 1) * (m - 1)) rem) l) := by
  rw [padOddAux, if_neg h0]

/-- numpy's chunk size `min period rem`; the period is a positive multiple of `m - 1` below the length -/
theorem chunk_bounds {m len rem : Nat} (hm : 2 ≤ m) (hl : m ≤ len) (h0 : rem ≠ 0) :
    1 ≤ min ((len - 1) / (m - 1) * (m - 1)) rem ∧ min ((len - 1) / (m - 1) * (m - 1)) rem ≤ rem ∧
      min ((len - 1) / (m - 1) * (m - 1)) rem < len := by
  have hm1 : 1 ≤ m - 1 := Nat.le_sub_one_of_lt hm
  have h1 : 1 ≤ (len - 1) / (m - 1) * (m - 1) :=
    Nat.le_trans hm1 (Nat.le_mul_of_pos_left _ (Nat.div_pos (Nat.sub_le_sub_right hl 1) hm1))
  have h2 : (len - 1) / (m - 1) * (m - 1) < len :=
    Nat.lt_of_le_of_lt (Nat.div_mul_le_self _ _) (Nat.sub_one_lt (by omega))
  exact ⟨Nat.le_min.mpr ⟨h1, Nat.pos_of_ne_zero h0⟩, Nat.min_le_right _ _, Nat.lt_of_le_of_lt (Nat.min_le_left _ _) h2⟩

theorem padOddAux_spec (m : Nat) (hm : 2 ≤ m) :
    ∀ (f rem : Nat) (l : List Rat), rem ≤ f → m ≤ l.length →
      PadChain l (padOddAux m f rem l) ∧
      ∃ L Rr, padOddAux m f rem l = L ++ l ++ Rr ∧ L.length = rem ∧ Rr.length = rem := by
  intro f
  induction f with
  | zero =>
    intro rem l hrem _
    obtain rfl : rem = 0 := Nat.le_zero.mp hrem
    exact ⟨PadChain.refl l, [], [], (List.append_nil l).symm, rfl, rfl⟩
  | succ f ih =>
    intro rem l hrem hl
    by_cases h0 : rem = 0
    · subst h0
      rw [padOddAux_zero]
      exact ⟨PadChain.refl l, [], [], (List.append_nil l).symm, rfl, rfl⟩
    · obtain ⟨hc1, hcrem, hclt⟩ := chunk_bounds hm hl h0
      rw [padOddAux_succ m f l h0]
      generalize min ((l.length - 1) / (m - 1) * (m - 1)) rem = c at hc1 hcrem hclt ⊢
      obtain ⟨hch, L, Rr, heq, hL, hR⟩ := ih (rem - c) (padOddOnce c l) (by omega)
        (by rw [padOddOnce_length c l hclt]; omega)
      refine ⟨(PadChain.step c hc1 hclt (PadChain.refl l)).trans hch, L ++ leftRefl c l, rightRefl c l ++ Rr, ?_, ?_, ?_⟩
      · rw [heq, padOddOnce]; simp only [List.append_assoc]
      · rw [List.length_append, hL, leftRefl_length hclt, Nat.sub_add_cancel hcrem]
      · rw [List.length_append, hR, rightRefl_length hclt, Nat.add_comm, Nat.sub_add_cancel hcrem]

theorem padOdd_eq_aux (w : Nat) (l : List Rat) (hl : 2 ≤ l.length) : padOdd w l = padOddAux l.length w w l := by
  match l, hl with
  | a :: b :: t, _ => rfl

theorem padOdd_spec (w : Nat) (l : List Rat) (hl : 2 ≤ l.length) :
    PadChain l (padOdd w l) ∧ ∃ L Rr, padOdd w l = L ++ l ++ Rr ∧ L.length = w ∧ Rr.length = w := by
  rw [padOdd_eq_aux w l hl]
  exact padOddAux_spec _ hl w w l (Nat.le_refl _) (Nat.le_refl _)

/-! ### min / max of ordered locations -/

theorem lmin_of_sorted (l : List Rat) (hne : l ≠ []) (h : l.Pairwise (· < ·)) : lmin l = l.head hne := by
  induction l with
  | nil => exact absurd rfl hne
  | cons a t ih =>
    cases t with
    | nil => rfl
    | cons b t =>
      have hab : a ≤ b := Rat.le_of_lt ((List.pairwise_cons.mp h).1 b List.mem_cons_self)
      rw [lmin, ih (List.cons_ne_nil b t) (List.pairwise_cons.mp h).2, List.head_cons, if_pos hab, List.head_cons]
      exact List.cons_ne_nil b t

theorem lmax_of_sorted (l : List Rat) (hne : l ≠ []) (h : l.Pairwise (· < ·)) : lmax l = l.getLast hne := by
  induction l with
  | nil => exact absurd rfl hne
  | cons a t ih =>
    cases t with
    | nil => rfl
    | cons b t =>
      have hlast : ¬ (b :: t).getLast (List.cons_ne_nil b t) ≤ a :=
        Rat.not_le.mpr ((List.pairwise_cons.mp h).1 _ (List.getLast_mem _))
      rw [lmax, ih (List.cons_ne_nil b t) (List.pairwise_cons.mp h).2, if_neg hlast,
        List.getLast_cons (List.cons_ne_nil b t)]
      exact List.cons_ne_nil b t

theorem needsMore_eq_false_iff (n : Nat) (l : List Rat) : needsMore n l = false ↔ lmin l < 0 ∧ (n : Rat) ≤ lmax l := by
  simp only [needsMore, Bool.or_eq_false_iff, decide_eq_false_iff_not, Rat.not_lt, Rat.not_le]
  exact and_comm

/-! ### edge replication of the magnitudes -/

theorem padEdge_eq {a z : Rat} {e : List Rat} (w : Nat) (ha : e.head? = some a) (hz : e.getLast? = some z) :
    padEdge w e = List.replicate w a ++ e ++ List.replicate w z := by
  rw [padEdge, ha, hz]

theorem padEdge_sandwich (a z : Rat) (e : List Rat) (k w : Nat) (ha : e.head? = some a) (hz : e.getLast? = some z) :
    padEdge w (List.replicate k a ++ e ++ List.replicate k z) =
      List.replicate (k + w) a ++ e ++ List.replicate (k + w) z := by
  have h1 : (List.replicate k a ++ e ++ List.replicate k z).head? = some a := by
    rw [List.append_assoc, List.head?_append, List.head?_replicate, List.head?_append, ha]
    split <;> rfl
  have h2 : (List.replicate k a ++ e ++ List.replicate k z).getLast? = some z := by
    rw [List.getLast?_append, List.getLast?_replicate, List.getLast?_append, hz]
    split <;> rfl
  rw [padEdge_eq w h1 h2, ← List.append_assoc, ← List.append_assoc, List.replicate_append_replicate,
    List.append_assoc _ _ (List.replicate w z), List.replicate_append_replicate, Nat.add_comm w k]

theorem padEdge_map (f : Rat → Rat) (w : Nat) (e : List Rat) : padEdge w (e.map f) = (padEdge w e).map f := by
  unfold padEdge
  rw [List.head?_map, List.getLast?_map]
  cases e.head? <;> cases e.getLast? <;> simp

theorem padEdge_reverse (w : Nat) (e : List Rat) : padEdge w e.reverse = (padEdge w e).reverse := by
  unfold padEdge
  rw [List.head?_reverse, List.getLast?_reverse]
  cases e.head? <;> cases e.getLast? <;> simp

end Extrema
