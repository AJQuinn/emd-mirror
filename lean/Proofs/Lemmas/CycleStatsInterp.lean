/- Lemmas about phase alignment and phase binning of EmdModel.CycleStats: the model of scipy's linear `interp1d`, `np.digitize`
   on increasing edges, and when the per-cycle loop of `phase_align` returns. -/
import Proofs.Lemmas.CycleStats
import Proofs.Lemmas.CountPrefix

namespace CycleStats
open Maps

/-! ### the affine case of `phase_align` -/

theorem sortPts_of_sorted {l : List (Rat × Rat)} (h : l.Pairwise fun p q => p.1 < q.1) :
    sortPts l = l := by
  induction l with
  | nil => rfl
  | cons p t ih =>
    have ht := (List.pairwise_cons.mp h).2
    have hp := (List.pairwise_cons.mp h).1
    unfold sortPts at ih ⊢
    simp only [List.foldr_cons, ih ht]
    cases t with
    | nil => rfl
    | cons q t' =>
      unfold insertPt
      rw [if_pos (Rat.le_of_lt (hp q List.mem_cons_self))]

theorem line_through {a b l h t : Rat} (hne : h ≠ l) :
    ((a * h + b) - (a * l + b)) / (h - l) * (t - l) + (a * l + b) = a * t + b := by
  have hd : h - l ≠ 0 := by grind
  have : ((a * h + b) - (a * l + b)) / (h - l) = a := by
    have : (a * h + b) - (a * l + b) = a * (h - l) := by grind
    rw [this, Rat.mul_comm, Rat.div_def, Rat.mul_assoc, Rat.mul_comm a, ← Rat.mul_assoc,
      Rat.mul_inv_cancel _ hd, Rat.one_mul]
  rw [this]; grind

theorem gather_affine {ip x : List Rat} {g : Rat → Rat} {inds : List Nat}
    (h : ∀ i ∈ inds, ∃ p, ip[i]? = some p ∧ x[i]? = some (g p)) :
    gather x inds = (gather ip inds).map g ∧ (gather ip inds).length = inds.length := by
  induction inds with
  | nil => simp [gather]
  | cons i t ih =>
    obtain ⟨p, h1, h2⟩ := h i (by simp)
    obtain ⟨e1, e2⟩ := ih (fun j hj => h j (List.mem_cons_of_mem _ hj))
    unfold gather at e1 e2 ⊢
    simp [h1, h2, e1, e2]

/-! ### np.digitize on increasing edges, bin_by_phase -/

theorem digitize_eq_iff {edges : List Rat} {v : Rat} (hs : edges.Pairwise (· < ·)) {b : Nat} (hb : b + 1 < edges.length) :
    digitize edges v = b + 1 ↔ edges[b] ≤ v ∧ v < edges[b + 1] := by
  simpa [digitize, Rat.not_le] using
    List.countP_eq_succ_iff_of_prefix (· ≤ v) edges (List.le_on_prefix (hs.imp Rat.le_of_lt) v) b hb

theorem filter_digitize {β : Type} {edges : List Rat} (hs : edges.Pairwise (· < ·)) {b : Nat} (hb : b + 1 < edges.length)
    {l : List (Rat × β)} :
    (l.filter fun p => digitize edges p.1 = b + 1) = l.filter fun p => edges[b] ≤ p.1 ∧ p.1 < edges[b + 1] :=
  List.filter_congr fun _ _ => decide_eq_decide.mpr (digitize_eq_iff hs hb)

theorem binByPhase_getElem? {edges ip x : List Rat} {b : Nat} (hb : b < edges.length - 1) :
    (binByPhase edges ip x)[b]? = some (mean? (binValues edges ip x b), var? (binValues edges ip x b)) := by
  rw [binByPhase, List.getElem?_map, List.getElem?_range hb, Option.map_some]

theorem mean?_of_ne_nil {l : List Rat} (h : l ≠ []) : mean? l = some (Sig.sum l / l.length) := by
  unfold mean?
  cases l with
  | nil => exact absurd rfl h
  | cons a t => simp

/-! ### when the per-cycle loop of phase_align returns -/

theorem gather_length_of_lt {α : Type} {vals : List α} {inds : List Nat} (h : ∀ i ∈ inds, i < vals.length) :
    (gather vals inds).length = inds.length :=
  List.filterMap_length_eq_length.mpr fun i hi => by simp [h i hi]

theorem insertPt_length (p : Rat × Rat) (l : List (Rat × Rat)) : (insertPt p l).length = l.length + 1 := by
  induction l with
  | nil => simp [insertPt]
  | cons q t ih => by_cases h : p.1 ≤ q.1 <;> simp [insertPt, h, ih]

theorem sortPts_length (l : List (Rat × Rat)) : (sortPts l).length = l.length := by
  induction l with
  | nil => simp [sortPts]
  | cons p t ih =>
    have : sortPts (p :: t) = insertPt p (sortPts t) := by simp [sortPts]
    rw [this, insertPt_length, ih]; simp

theorem alignCycle_eq {ip x : List Rat} {inds : List Nat} {bins : List Rat}
    (h1 : ∀ i ∈ inds, i < ip.length) (h2 : ∀ i ∈ inds, i < x.length) :
    alignCycle ip x inds bins =
      if inds ≠ [] then .ok (bins.map (linInterp (sortPts ((gather ip inds).zip (gather x inds)))))
      else .error .valueError := by
  have hlen : (sortPts ((gather ip inds).zip (gather x inds))).length = inds.length := by
    rw [sortPts_length, List.length_zip, gather_length_of_lt h1, gather_length_of_lt h2]; simp
  have hemp : (sortPts ((gather ip inds).zip (gather x inds))).isEmpty = true ↔ inds = [] := by
    rw [List.isEmpty_iff, ← List.length_eq_zero_iff, hlen, List.length_eq_zero_iff]
  unfold alignCycle
  by_cases he : inds = []
  · rw [if_pos (hemp.mpr he), if_neg (fun h => h he)]
  · rw [if_neg (mt hemp.mp he), if_pos he]

/-- `phase_align` in closed form: every rejected input is a ValueError -/
theorem phaseAlign_eq (ip x : List Rat) (cv : List Int) (bins : List Rat) :
    phaseAlign ip x cv bins =
      if cv ≠ [] ∧ cv.length = ip.length ∧ ip.length = x.length ∧ ∀ k, k < nLabels cv → mapCycleToSamples cv k ≠ [] then
        .ok ((List.range (nLabels cv)).map fun k => bins.map (linInterp (sortPts
          ((gather ip (mapCycleToSamples cv k)).zip (gather x (mapCycleToSamples cv k))))))
      else .error .valueError := by
  unfold phaseAlign
  by_cases hne : cv = []
  · rw [if_pos (by simpa using hne), if_neg fun h => h.1 hne]
  by_cases hl : cv.length = ip.length ∧ ip.length = x.length
  · have hk : ∀ k ∈ List.range (nLabels cv), alignCycle ip x (mapCycleToSamples cv k) bins = _ := fun k _ =>
      alignCycle_eq (fun i hi => hl.1 ▸ whereEq_lt hi) (fun i hi => hl.2 ▸ hl.1 ▸ whereEq_lt hi)
    rw [if_neg (by simpa using hne), if_neg (not_or.mpr ⟨not_not_intro hl.1, not_not_intro hl.2⟩), List.map_congr_left hk,
      sequence_map_ite]
    simp only [hne, hl, List.mem_range, ne_eq, not_false_eq_true, true_and]
  · rw [if_neg (by simpa using hne), if_pos (Decidable.not_and_iff_not_or_not.mp hl), if_neg fun h => hl ⟨h.2.1, h.2.2.1⟩]

theorem phaseAlign_cols {ip x : List Rat} {cv : List Int} {bins : List Rat} {cols : List (List (Option Rat))}
    (h : phaseAlign ip x cv bins = .ok cols) :
    cols.length = nLabels cv ∧ ∀ k, k < nLabels cv →
      ∃ col, alignCycle ip x (mapCycleToSamples cv k) bins = .ok col ∧ cols[k]? = some col := by
  unfold phaseAlign at h
  split at h
  · cases h
  · split at h
    · cases h
    · obtain ⟨hl, hk⟩ := sequence_ok_getElem? h
      exact ⟨by simpa using hl, fun k hklt => hk k _ (by simp [List.getElem?_map, List.getElem?_range hklt])⟩

end CycleStats
