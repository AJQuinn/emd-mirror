/-
  The two models of `mask_sift` agree.  `Sift.maskSift` (C03) is the generic `peelLoop` over an abstract per-layer
  masked extraction, with fuel and the lowered cap `effCap`; `Mask.maskSift` (C07) has concrete masks (frequency
  ladder / user list, amplitude modes, phases, worker pool), recursion on the list of unused frequencies, `Except`.
  `maskM` is the extraction of the first built from the ingredients of the second.  With it the Mask loop is the Sift
  loop, the unused frequencies being the fuel and the outcome read back into `Except` (`maskSiftLoop_eq`, `readBack`);
  what `mask_sift` does layer by layer is then a fact about `maskM` alone (`maskM_sched`, `maskSift_eq`, `ok_layer`).
-/
import Proofs.C03
import Proofs.Lemmas.Mask

namespace ComposeMask
open Sift Mask Pool

/-- `nfreqs` argument of the Sift model: the number of user supplied frequencies, if any -/
def nfOf : FreqSrc → Option Nat
  | .first _ _ => none
  | .list fs => some fs.length

theorem effCap_nfOf (src : FreqSrc) (cap : Nat) : effCap cap (nfOf src) = (maskFreqs src cap).2 := by
  cases src <;> rfl

/-- The masked extraction of layer `k = cols.length` of the Mask model, as the abstract extraction of
    the Sift model: amplitude `ampAt k · sdFor (previous column)`, frequency `freqs[k]`, `cfg.p` phases
    on the pool schedule `σ k`.  It raises (`none`) exactly where `mask_sift` raises: amplitude array or
    frequency list too short, `nphases = 0`. -/
def maskM (σ : Nat → Schedule) (X : Sig → Sig × Bool) (unit : Rat → Nat → Nat → Sig) (std : Sig → Rat)
    (cfg : Cfg) (x : Sig) (freqs : List Rat) : List Sig → Sig → Option (Sig × Bool) := fun cols proto =>
  match ampAt cfg.amp cols.length, freqs[cols.length]? with
  | some a, some f =>
    if cfg.p = 0 then none
    else some (getNextImfMaskPool (σ cols.length) X
      (layerMask unit f (a * sdFor std cfg.mode x cols.getLast?) cfg.p) cfg.p proto)
  | _, _ => none

variable {σ : Nat → Schedule} {X : Sig → Sig × Bool} {unit : Rat → Nat → Nat → Sig} {std : Sig → Rat} {cfg : Cfg}
  {src : FreqSrc} {cap : Nat} {x : Sig} {cols : List Sig} {freqs : List Rat}

theorem maskM_eq_some {proto : Sig} {r : Sig × Bool}
    (h : maskM σ X unit std cfg x freqs cols proto = some r) :
    ∃ a f, ampAt cfg.amp cols.length = some a ∧ freqs[cols.length]? = some f ∧ cfg.p ≠ 0 ∧
      r = getNextImfMaskPool (σ cols.length) X (layerMask unit f (a * sdFor std cfg.mode x cols.getLast?) cfg.p)
        cfg.p proto := by
  unfold maskM at h
  split at h
  · next a f ha hf =>
    split at h
    · cases h
    · next hp => exact ⟨a, f, ha, hf, hp, (Option.some.inj h).symm⟩
  · cases h

/-- The outcome of the Sift loop over `maskM`, run on one unit of fuel per unused mask frequency, as the real
    `mask_sift` reports it.  A regular exit returns the columns.  A layer that raises has its amplitude missing —
    `mask_amp[imf_layer]` on too short an array: `IndexError` — or else `nphases = 0`: `get_next_imf_mask` then calls
    `np.concatenate` on an empty list of results, a `ValueError` (the layer's frequency is there, the fuel covers only
    layers that have one).  Fuel that runs out is the frequency list that runs out: `mask_freqs[imf_layer]` raises
    `IndexError`. -/
def readBack (cfg : Cfg) : List Sig × SiftEnd → Except Err (List Sig)
  | (out, .done _ _ _) => .ok out
  | (out, .raised) => .error (if ampAt cfg.amp out.length = none then .indexError else .valueError)
  | (_, .outOfFuel) => .error .indexError

/-- `freqs` is the whole list, `fr` the part not yet used: the recursion consumes `fr` while `maskM` indexes `freqs` by
    layer, so they only have to agree on the layers `fr` covers. -/
theorem maskSiftLoop_eq (freqs fr : List Rat) : ∀ (cols : List Sig),
    (∀ j, j < fr.length → freqs[cols.length + j]? = fr[j]?) →
    maskSiftLoop σ X unit std cfg cap x cols.length cols fr
      = readBack cfg (peelLoop (maskM σ X unit std cfg x freqs) cfg.thresh (some cap) x fr.length cols (resid x cols)) := by
  induction fr with
  | nil => intro cols _; rfl
  | cons f rest ih =>
    intro cols hfr
    have hf : freqs[cols.length]? = some f := by simpa using hfr 0 (by simp)
    unfold maskSiftLoop
    rw [List.length_cons]
    cases ha : ampAt cfg.amp cols.length with
    | none => rw [peelLoop_none (by simp only [maskM, ha]), readBack, if_pos ha]
    | some a =>
      by_cases hp : cfg.p = 0
      · rw [peelLoop_none (by simp only [maskM, ha, hf, hp, if_true]), readBack, if_neg (by simp [ha])]
        simp only [hp, if_true]
      · simp only [hp, if_false]
        have hM : maskM σ X unit std cfg x freqs cols (resid x cols) =
            some (getNextImfMaskPool (σ cols.length) X
              (layerMask unit f (a * sdFor std cfg.mode x cols.getLast?) cfg.p) cfg.p
              (Sig.sub x (Sig.vsum x.length cols))) := by
          simp only [maskM, ha, hf, hp, if_false]; rfl
        generalize getNextImfMaskPool (σ cols.length) X
              (layerMask unit f (a * sdFor std cfg.mode x cols.getLast?) cfg.p) cfg.p
              (Sig.sub x (Sig.vsum x.length cols)) = r at hM
        -- one layer of the Sift loop, with the cap test in the Mask loop's form
        rw [peelLoop_some hM]
        simp only [Option.some_beq_some, BEq.comm (a := cap)]
        split
        · have := ih (cols ++ [r.1]) fun j hj => by
            have := hfr (j + 1) (Nat.succ_lt_succ hj)
            rw [List.getElem?_cons_succ, ← Nat.add_assoc, Nat.add_right_comm] at this
            rw [List.length_append]; exact this
          rwa [List.length_append] at this
        · rfl

theorem maskSift_eq_readBack (freqs' : List Rat)
    (hf : ∀ j, j < (maskFreqs src cap).1.length → freqs'[j]? = (maskFreqs src cap).1[j]?) :
    maskSiftLoop σ X unit std cfg (maskFreqs src cap).2 x 0 [] (maskFreqs src cap).1
      = readBack cfg (Sift.maskSift (maskM σ X unit std cfg x freqs') cfg.thresh cap (nfOf src) x
          (maskFreqs src cap).1.length) := by
  rw [Sift.maskSift, effCap_nfOf]
  exact (maskSiftLoop_eq freqs' _ [] (by simpa using hf)).trans (by rw [resid_nil])

theorem maskM_sched {nproc : Nat} (hσ : ∀ k, (σ k).Valid cfg.p nproc) :
    maskM σ X unit std cfg x freqs = maskM (fun _ => Schedule.roundRobin cfg.p 1) X unit std cfg x freqs := by
  funext cols proto
  have e : ∀ m, getNextImfMaskPool (σ cols.length) X m cfg.p proto = getNextImfMask X m cfg.p proto := fun m =>
    (getNextImfMaskPool_eq (hσ _)).trans (getNextImfMask_eq X m cfg.p proto).symm
  simp only [maskM, e]
  rfl

theorem maskSift_eq {nproc : Nat} (hσ : ∀ k, (σ k).Valid cfg.p nproc) :
    Mask.maskSift σ X unit std cfg src cap x
      = (readBack cfg (Sift.maskSift (maskM (fun _ => Schedule.roundRobin cfg.p 1) X unit std cfg x (maskFreqs src cap).1)
          cfg.thresh cap (nfOf src) x (maskFreqs src cap).1.length)).map fun cols => (cols, (maskFreqs src cap).1) := by
  rw [maskSift_eq_map, maskSift_eq_readBack _ (fun _ _ => rfl), maskM_sched hσ]

theorem readBack_eq_ok {r : List Sig × SiftEnd} (h : readBack cfg r = .ok cols) :
    ∃ fl cp th, r = (cols, .done fl cp th) := by
  obtain ⟨out, _ | _ | _⟩ := r <;> cases h
  exact ⟨_, _, _, rfl⟩

/-- `maskM` may be built from any list `freqs'` that agrees with `freqs` on its whole length: cap nesting compares
    the runs under two caps over the longer ladder. -/
theorem maskSift_ok_gen {freqs' : List Rat}
    (h : Mask.maskSift σ X unit std cfg src cap x = .ok (cols, freqs))
    (hf : ∀ j, j < freqs.length → freqs'[j]? = freqs[j]?) (fuel : Nat) (hfuel : cols.length ≤ fuel) :
    ∃ fl cp th, Sift.maskSift (maskM σ X unit std cfg x freqs') cfg.thresh cap (nfOf src) x fuel
      = (cols, .done fl cp th) := by
  obtain ⟨rfl, hl⟩ := maskSift_eq_ok h
  rw [maskSift_eq_readBack freqs' hf] at hl
  obtain ⟨fl, cp, th, hr⟩ := readBack_eq_ok hl
  exact ⟨fl, cp, th, peelLoop_done_fuel (resid_nil x).symm hr (by simpa using hfuel)⟩

theorem maskSift_ok
    (h : Mask.maskSift σ X unit std cfg src cap x = .ok (cols, freqs)) (fuel : Nat) (hfuel : cols.length ≤ fuel) :
    ∃ fl cp th, Sift.maskSift (maskM σ X unit std cfg x freqs) cfg.thresh cap (nfOf src) x fuel
      = (cols, .done fl cp th) :=
  maskSift_ok_gen h (fun _ _ => rfl) fuel hfuel

theorem maskM_none_of_le (h : freqs.length ≤ cols.length) (proto : Sig) :
    maskM σ X unit std cfg x freqs cols proto = none := by
  simp only [maskM, List.getElem?_eq_none h]
  cases ampAt cfg.amp cols.length <;> rfl

theorem maskSift_error {e : Err}
    (h : Mask.maskSift σ X unit std cfg src cap x = .error e) (fuel : Nat)
    (hfuel : (maskFreqs src cap).1.length < fuel) :
    ∃ out, Sift.maskSift (maskM σ X unit std cfg x (maskFreqs src cap).1) cfg.thresh cap (nfOf src) x fuel
      = (out, .raised) := by
  rw [maskSift_eq_map, maskSift_eq_readBack _ (fun _ _ => rfl)] at h
  obtain ⟨b, rfl⟩ := Nat.exists_eq_add_of_lt hfuel
  unfold Sift.maskSift at h ⊢
  rw [Nat.add_assoc, peelLoop_fuel_add _ _ [] x (resid_nil x).symm]
  cases hr : peelLoop (maskM σ X unit std cfg x (maskFreqs src cap).1) cfg.thresh (some (effCap cap (nfOf src))) x
      (maskFreqs src cap).1.length [] x with
  | mk out e =>
    rw [hr] at h
    cases e with
    | done => cases h
    | raised => exact ⟨out, rfl⟩
    | outOfFuel =>
      -- one unit of fuel per frequency ran out: the next layer has no frequency
      have hlen := peelLoop_fuel_length hr
      exact ⟨out, peelLoop_none (maskM_none_of_le (by omega) _)⟩

theorem ok_cols_pos
    (h : Mask.maskSift σ X unit std cfg src cap x = .ok (cols, freqs)) : 0 < cols.length := by
  obtain ⟨_, _, _, hr⟩ := maskSift_ok h cols.length (Nat.le_refl _)
  obtain ⟨init, c, rfl, _⟩ := peel_done hr
  simp

theorem ok_list_nonempty
    (h : Mask.maskSift σ X unit std cfg src cap x = .ok (cols, freqs)) : ∀ m, nfOf src = some m → 0 < m := by
  intro m hm
  cases src with
  | first z s => cases hm
  | list fs =>
    injection hm with hm
    subst hm
    cases fs with
    | nil => simp [Mask.maskSift, maskFreqs, maskSiftLoop] at h
    | cons f t => exact Nat.succ_pos _

theorem ok_col_eq_extract
    (h : Mask.maskSift σ X unit std cfg src cap x = .ok (cols, freqs)) :
    ∀ k, k < cols.length → ∃ c f, cols[k]? = some c ∧
      maskM σ X unit std cfg x freqs (cols.take k) (resid x (cols.take k)) = some (c, f) := by
  obtain ⟨_, _, _, r⟩ := maskSift_ok h cols.length (Nat.le_refl _)
  exact C03.maskSift_col_eq_extract _ cfg.thresh cap (nfOf src) x cols.length cols _ r

theorem ok_layer
    (h : Mask.maskSift σ X unit std cfg src cap x = .ok (cols, freqs)) (k : Nat) (hk : k < cols.length) :
    ∃ a f, ampAt cfg.amp k = some a ∧ freqs[k]? = some f ∧ cfg.p ≠ 0 ∧
      cols[k]? = some (getNextImfMaskPool (σ k) X
        (layerMask unit f (a * sdFor std cfg.mode x (cols.take k).getLast?) cfg.p) cfg.p
        (Sig.sub x (Sig.vsum x.length (cols.take k)))).1 := by
  obtain ⟨c, fl, hc, hM⟩ := ok_col_eq_extract h k hk
  obtain ⟨a, f, ha, hf, hp, hr⟩ := maskM_eq_some hM
  rw [List.length_take, Nat.min_eq_left (Nat.le_of_lt hk)] at ha hf hr
  exact ⟨a, f, ha, hf, hp, hc.trans (congrArg (fun r => some r.1) hr)⟩

theorem done_cols_le_freqs {thr : Rat} {nf : Option Nat} {fuel : Nat}
    {fl cp th : Bool}
    (h : Sift.maskSift (maskM σ X unit std cfg x freqs) thr cap nf x fuel = (cols, .done fl cp th)) :
    cols.length ≤ freqs.length := by
  obtain ⟨init, c, rfl, hc, _⟩ := peel_done h
  obtain ⟨_, f, _, hf, _⟩ := maskM_eq_some hc
  rw [List.length_append, List.length_singleton]
  exact (List.getElem?_eq_some_iff.mp hf).1

theorem ok_cols_le_freqs
    (h : Mask.maskSift σ X unit std cfg src cap x = .ok (cols, freqs)) : cols.length ≤ freqs.length :=
  let ⟨_, _, _, r⟩ := maskSift_ok h cols.length (Nat.le_refl _)
  done_cols_le_freqs r

theorem ok_cols_le_effCap
    (h : Mask.maskSift σ X unit std cfg src cap x = .ok (cols, freqs)) (hc : 0 < effCap cap (nfOf src)) :
    cols.length ≤ effCap cap (nfOf src) := by
  obtain ⟨_, _, _, r⟩ := maskSift_ok h cols.length (Nat.le_refl _)
  have : (Sift.maskSift (maskM σ X unit std cfg x freqs) cfg.thresh cap (nfOf src) x cols.length).1.length ≤
      effCap cap (nfOf src) := peelLoop_le_cap hc
  rwa [r] at this

theorem maskFreqs_nested (k K : Nat) (hK : k ≤ K) (j : Nat) (hj : j < (maskFreqs src k).1.length) :
    (maskFreqs src K).1[j]? = (maskFreqs src k).1[j]? := by
  cases src with
  | list fs => rfl
  | first z s =>
    simp only [maskFreqs, List.length_map, List.length_range] at hj ⊢
    have h1 : j < K := by omega
    simp [hj, h1]

/-- Boolean reflection of "the run returned `v`", for concrete non-vacuity examples: core has no `DecidableEq` for
    `Except`, and the instance `Proofs/Lemmas/Config.lean` derives is not among this file's imports -/
def okEq (r : Except Err (List Sig × List Rat)) (v : List Sig × List Rat) : Bool :=
  match r with
  | .ok a => decide (a = v)
  | .error _ => false

theorem okEq_sound {r : Except Err (List Sig × List Rat)} {v : List Sig × List Rat} (h : okEq r v = true) :
    r = .ok v := by
  cases r with
  | ok a => exact congrArg Except.ok (of_decide_eq_true h)
  | error _ => cases h

end ComposeMask
