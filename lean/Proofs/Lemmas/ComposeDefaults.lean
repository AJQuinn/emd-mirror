/-
  Cross-model consistency: the signature-default tables of the option-resolution model
  (`EmdModel/Options.lean`, C06) and the default configuration built by the configuration model
  (`EmdModel/Config.lean`, `getConfig`, C18).  `Options.modelSigs` feeds the Options tables into
  `Config.getConfig`; these lemmas show that what `get_config` stores is exactly what argument
  binding (`Options.resolve` with no keyword supplied) falls back to.
-/
import Proofs.Lemmas.OptionsTables

namespace Options
open Config

/-- what `get_config` does with the model's signatures: the three stage dictionaries it stores, the names it knows,
    the signatures it finds (one conjunction: see `stageTables`) -/
theorem configTables :
    functionOpts gniIgnore gniSig = gniOwn ∧ functionOpts ieIgnore ieSig = envDefaults ∧
    ((functionOpts gpeIgnore gpeSig).insert (k "mag_pad_opts") magPadOpts).insert (k "loc_pad_opts") locPadOpts = extDefaults ∧
    (∀ v ∈ [Variant.sift, .ensemble, .complete, .mask], v.name.toList ∈ siftTypes ∧
      modelSigs.variant v.name.toList = some (sigOf v) ∧ (∀ p ∈ (sigOf v).keys, '/' ∉ p)) ∧
    (∀ v ∈ [Variant.nextImfMask, .maskFreqs, .nextImf], v.name.toList ∉ siftTypes) ∧
    (∀ p ∈ optKeys, '/' ∉ p) ∧ gpeLocLiteral = locPadOpts ∧ gpeMagLiteral = magPadOpts ∧
    "noise_mode".toList ∉ variantIgnore := by
  decide +kernel

theorem sigOf_configurable {w : Variant} (hw : w ∈ [Variant.sift, .ensemble, .complete, .mask]) :
    w.name.toList ∈ siftTypes ∧ modelSigs.variant w.name.toList = some (sigOf w) ∧ ∀ p ∈ (sigOf w).keys, '/' ∉ p :=
  configTables.2.2.2.1 w hw
theorem not_siftType : ∀ v ∈ [Variant.nextImfMask, .maskFreqs, .nextImf], v.name.toList ∉ siftTypes :=
  configTables.2.2.2.2.1
theorem optKeys_noSlash : ∀ p ∈ optKeys, '/' ∉ p := configTables.2.2.2.2.2.1
theorem gpeLocLiteral_eq : gpeLocLiteral = locPadOpts := configTables.2.2.2.2.2.2.1
theorem gpeMagLiteral_eq : gpeMagLiteral = magPadOpts := configTables.2.2.2.2.2.2.2.1
theorem noise_not_ignored : "noise_mode".toList ∉ variantIgnore := configTables.2.2.2.2.2.2.2.2

/-- the default store of a variant `get_config` knows -/
def cfgStore (w : Variant) : Assoc := defaultStore modelSigs (sigOf w)

theorem getConfig_model {w : Variant} (hw : w ∈ [Variant.sift, .ensemble, .complete, .mask]) :
    getConfig modelSigs w.name.toList = .ok ⟨.scalar (.str w.name.toList), .dict (cfgStore w)⟩ :=
  have := sigOf_configurable hw
  getConfig_eq this.1 this.2.1 this.2.2

theorem lookup_cfgStore (w : Variant) :
    (cfgStore w).lookup "imf_opts".toList = some (.dict gniOwn) ∧
    (cfgStore w).lookup "envelope_opts".toList = some (.dict envDefaults) ∧
    (cfgStore w).lookup "extrema_opts".toList = some (.dict extDefaults) := by
  have := lookup_defaultStore modelSigs (sigOf w)
  rwa [show modelSigs.gni = gniSig from rfl, show modelSigs.ie = ieSig from rfl, show modelSigs.gpe = gpeSig from rfl,
    configTables.1, configTables.2.1, configTables.2.2.1] at this

end Options

namespace ComposeDefaults
open Config Config.Assoc Options

/-- the stored `imf_opts` are the defaults `get_next_imf` binds -/
theorem imf_defaults {p : Key} {d : Tree} (h : gniOwn.lookup p = some d) :
    (resolve gniSig .nil).lookup p = some d := by
  rw [resolve_nil]; exact gniStage.own_lookup h

/-- the stored `envelope_opts` are the defaults `interp_envelope` binds -/
theorem env_defaults {p : Key} {d : Tree} (h : envDefaults.lookup p = some d) :
    (resolve ieSig .nil).lookup p = some d := by
  obtain ⟨d', hd'⟩ := exists_lookup_of_mem_keys (good_envDefaults.1 p (mem_keys_of_lookup h))
  have := getD_of_resolve_eq envDefaults_resolve hd'
  rw [h] at this
  rw [resolve_nil]
  exact ieStage.own_lookup ((show d = d' from this) ▸ hd')

/-- the stored `extrema_opts` are the defaults `get_padded_extrema` binds, the two pad dictionaries
    being spelled out where the signature says `None` — the same effective value after the
    `if not loc_pad_opts` / `if not mag_pad_opts` fallback (`effVal`) -/
theorem ext_defaults {p : Key} {e : Tree} (h : extDefaults.lookup p = some e) :
    ∃ d, (resolve gpeSig .nil).lookup p = some d ∧ effVal p e = effVal p d := by
  obtain ⟨d, hd⟩ := exists_lookup_of_mem_keys (good_extDefaults.1 p (mem_keys_of_lookup h))
  have := extDefaults_agree hd
  rw [h] at this
  exact ⟨d, by rw [resolve_nil]; exact gpeStage.own_lookup hd, this⟩

end ComposeDefaults
