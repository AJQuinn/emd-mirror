/-
  The stage level of the option model.  `ChainObeys` / `Obeys`: what it means that the stage calls of a run work with
  given options (the predicates C06 is stated in).  `get_next_imf(X, **kw)` returns iff its keywords are acceptable, and
  then returns five explicit records (`gniM_eq_ok`); what the records hold (`gniM_spec`), that acceptable keywords
  suffice (`gniM_ok`) and the same for the chain every variant runs (`chain_spec`, `chain_ok`) are read off that equivalence.
-/
import Proofs.Lemmas.OptionsTables

namespace Options
open Config Config.Assoc Except

/-! ### what "the stage works with the user's options" means -/

/-- one complete `get_next_imf` chain in which every stage works with exactly the options `imf`, `env`, `ext` (a
    missing entry means the signature default; the two pad dictionaries are compared after the in-function
    fallback, `effVal`) -/
structure ChainObeys (imf env ext : Assoc) (c : List StageCall) : Prop where
  shape : ∃ a aU gU aL gL, c = [⟨.gni, a⟩, ⟨.ie, aU⟩, ⟨.gpe, gU⟩, ⟨.ie, aL⟩, ⟨.gpe, gL⟩] ∧
    (∀ p d, gniOwn.lookup p = some d → a.lookup p = some ((imf.lookup p).getD d)) ∧
    aU.lookup "mode".toList = some (s "upper") ∧ aL.lookup "mode".toList = some (s "lower") ∧
    (∀ p d, ieOwn.lookup p = some d →
      aU.lookup p = some ((env.lookup p).getD d) ∧ aL.lookup p = some ((env.lookup p).getD d)) ∧
    gU.lookup "mode".toList = some (s "peaks") ∧ gL.lookup "mode".toList = some (s "troughs") ∧
    (∀ p d, gpeOwn.lookup p = some d →
      (gU.lookup p).map (effVal p) = some (effVal p ((ext.lookup p).getD d)) ∧
      (gL.lookup p).map (effVal p) = some (effVal p ((ext.lookup p).getD d)))

def Obeys (imf env ext : Assoc) (cs : List StageCall) : Prop :=
  ∃ chains : List (List StageCall), cs = chains.flatten ∧ ∀ c ∈ chains, ChainObeys imf env ext c

section
variable {imf env ext : Assoc}

theorem Obeys.nil (imf env ext : Assoc) : Obeys imf env ext [] := ⟨[], rfl, by simp⟩

theorem Obeys.append {a b : List StageCall} (ha : Obeys imf env ext a)
    (hb : Obeys imf env ext b) : Obeys imf env ext (a ++ b) := by
  obtain ⟨ca, rfl, ha⟩ := ha
  obtain ⟨cb, rfl, hb⟩ := hb
  exact ⟨ca ++ cb, by simp, fun c hc => (List.mem_append.mp hc).elim (ha c) (hb c)⟩

theorem ChainObeys.congr {imf' env' ext' : Assoc} {c : List StageCall} (h : ChainObeys imf env ext c)
    (h1 : ∀ p d, gniOwn.lookup p = some d → (imf.lookup p).getD d = (imf'.lookup p).getD d)
    (h2 : ∀ p d, ieOwn.lookup p = some d → (env.lookup p).getD d = (env'.lookup p).getD d)
    (h3 : ∀ p d, gpeOwn.lookup p = some d → effVal p ((ext.lookup p).getD d) = effVal p ((ext'.lookup p).getD d)) :
    ChainObeys imf' env' ext' c := by
  obtain ⟨a, aU, gU, aL, gL, rfl, g1, g2, g3, g4, g5, g6, g7⟩ := h.shape
  refine ⟨a, aU, gU, aL, gL, rfl, ?_, g2, g3, ?_, g5, g6, ?_⟩
  · intro p d hp; rw [g1 p d hp, h1 p d hp]
  · intro p d hp; rw [(g4 p d hp).1, (g4 p d hp).2, h2 p d hp]; exact ⟨rfl, rfl⟩
  · intro p d hp; rw [(g7 p d hp).1, (g7 p d hp).2, h3 p d hp]; exact ⟨rfl, rfl⟩

theorem Obeys.congr {imf' env' ext' : Assoc} {cs : List StageCall} (h : Obeys imf env ext cs)
    (h1 : ∀ p d, gniOwn.lookup p = some d → (imf.lookup p).getD d = (imf'.lookup p).getD d)
    (h2 : ∀ p d, ieOwn.lookup p = some d → (env.lookup p).getD d = (env'.lookup p).getD d)
    (h3 : ∀ p d, gpeOwn.lookup p = some d → effVal p ((ext.lookup p).getD d) = effVal p ((ext'.lookup p).getD d)) :
    Obeys imf' env' ext' cs := by
  obtain ⟨chains, rfl, hc⟩ := h
  exact ⟨chains, rfl, fun c hcm => (hc c hcm).congr h1 h2 h3⟩

end

/-! ### option dictionaries with a default (`if not opts: opts = {…}` / `if opts is None: opts = {}`, then `**opts`) -/

theorem unpack_eq_ok {t : Tree} {a : Assoc} : unpack t = .ok a ↔ t = .dict a := by
  cases t <;> simp [unpack]

theorem unpack_orLit {c : Tree → Bool} {lit : Tree} {l : Assoc} (hl : lit = .dict l) (t : Tree) (a : Assoc) :
    unpack (if c t then lit else t) = .ok a ↔ (c t = true ∧ a = l) ∨ (c t = false ∧ t = .dict a) := by
  subst hl
  cases c t
  · simp [unpack_eq_ok]
  · simpa [unpack] using eq_comm

/-- the option value `t` is absent (`c t`: the code then takes its default) or an acceptable dictionary -/
def OptOK (c : Tree → Bool) (P : Assoc → Prop) (t : Tree) : Prop := c t = true ∨ ∃ a, t = .dict a ∧ P a

/-- the test `c` for an absent value (`isNone`, `falsy`) only accepts values without entries -/
def Absent (c : Tree → Bool) : Prop := ∀ t, c t = true → dictOf t = .nil

theorem absent_isNone : Absent isNone := fun t h => by cases t <;> simp_all [isNone, dictOf]
theorem absent_falsy : Absent falsy := fun t h => by
  cases t with
  | dict a => cases a with
    | nil => rfl
    | cons => cases h
  | _ => rfl

theorem isNone_iff {t : Tree} : isNone t = true ↔ t = Tree.none := by
  cases t with
  | scalar sc => cases sc <;> simp [isNone, Tree.none]
  | _ => simp [isNone, Tree.none]

theorem falsy_of_isNone {t : Tree} (h : isNone t = true) : falsy t = true := by rw [isNone_iff.1 h]; rfl

/-- what `**(t or {l})` binds: as far as `own` options are concerned, the entries of `t` (the literal only repeats
    defaults) — and acceptable iff `t` is absent or acceptable -/
theorem orLit_spec {c : Tree → Bool} (hc : Absent c) {own l a : Assoc} {t : Tree} {P : Assoc → Prop} (hP : P l)
    (hl : resolve own l = own) (h : (c t = true ∧ a = l) ∨ (c t = false ∧ t = .dict a)) :
    (∀ p d, own.lookup p = some d → (a.lookup p).getD d = ((dictOf t).lookup p).getD d) ∧ (P a ↔ OptOK c P t) := by
  rcases h with ⟨h1, rfl⟩ | ⟨h1, rfl⟩
  · refine ⟨fun p d hp => ?_, iff_of_true hP (Or.inl h1)⟩
    rw [hc t h1, getD_of_resolve_eq hl hp]; rfl
  · refine ⟨fun _ _ _ => rfl, fun hp => Or.inr ⟨a, rfl, hp⟩, fun hp => ?_⟩
    rcases hp with hp | ⟨_, e, hp⟩
    · simp [h1] at hp
    · cases e; exact hp

theorem orLit_ok {c : Tree → Bool} {lit : Tree} {l : Assoc} {P : Assoc → Prop} (hl : lit = .dict l) (hP : P l) {t : Tree}
    (ht : OptOK c P t) : ∃ a, unpack (if c t then lit else t) = .ok a ∧ P a := by
  by_cases hc : c t = true
  · exact ⟨l, (unpack_orLit hl t l).2 (Or.inl ⟨hc, rfl⟩), hP⟩
  · obtain ⟨a, rfl, ha⟩ := ht.resolve_left hc
    exact ⟨a, (unpack_orLit hl _ a).2 (Or.inr ⟨by simpa using hc, rfl⟩), ha⟩

/-! ### `interp_envelope` and the `get_padded_extrema` call below it -/

section
variable {m : String} {eoKw : Assoc} {xo : Tree}

theorem keys_ieKw :
    (ieKw m eoKw xo).keys.Perm (["mode".toList, "extrema_opts".toList] ++ eoKw.keys) := by
  simp only [ieKw, keys, keys_append]
  exact List.Perm.cons _ List.perm_append_comm

theorem lookup_ieKw_own {p : Key} (hp : p ∈ ieOwn.keys) :
    (ieKw m eoKw xo).lookup p = eoKw.lookup p := by
  have h1 : "mode".toList ≠ p := ieStage.pass_ne_own List.mem_cons_self hp
  have h2 : "extrema_opts".toList ≠ p := ieStage.pass_ne_own (List.mem_cons_of_mem _ List.mem_cons_self) hp
  rw [ieKw, lookup_cons_ne h1, lookup_append, lookup_cons_ne h2]
  cases eoKw.lookup p <;> rfl

theorem lookup_ieKw_ext (h : Good ieOwn.keys eoKw) :
    (ieKw m eoKw xo).lookup "extrema_opts".toList = some xo := by
  have hext : "extrema_opts".toList ∉ eoKw.keys := fun e =>
    ieStage.pass_ne_own (List.mem_cons_of_mem _ List.mem_cons_self) (h.1 _ e) rfl
  rw [ieKw, lookup_cons_ne (ne_of_nodup_pair (List.nodup_append.1 ieStage.nodup_append).2.1), lookup_append,
    lookup_eq_none.2 hext, lookup_cons_self]; rfl

/-- the two records behind one `interp_envelope` call of `get_next_imf` -/
def ieCalls (m m' : String) (eoKw : Assoc) (xo : Tree) (xoKw : Assoc) : List StageCall :=
  [⟨.ie, resolve ieSig (ieKw m eoKw xo)⟩, ⟨.gpe, resolve gpeSig (.cons "mode".toList (s m') xoKw)⟩]

/-- what the two records of one `interp_envelope` call hold: `a` its own bound arguments, `g` those of the
    `get_padded_extrema` call below it -/
structure IeSpec (eoKw : Assoc) (xo : Tree) (m m' : String) (a g : Assoc) : Prop where
  mode : a.lookup "mode".toList = some (s m)
  own : ∀ p d, ieOwn.lookup p = some d → a.lookup p = some ((eoKw.lookup p).getD d)
  passes : a.lookup "extrema_opts".toList = some xo
  gmode : g.lookup "mode".toList = some (s m')
  gown : ∀ p d, gpeOwn.lookup p = some d → g.lookup p = some (((dictOf xo).lookup p).getD d)

theorem ieCalls_spec {m' : String} {xoKw : Assoc} (he : Good ieOwn.keys eoKw)
    (hx : ∀ p d, gpeOwn.lookup p = some d → (xoKw.lookup p).getD d = ((dictOf xo).lookup p).getD d) :
    IeSpec eoKw xo m m' (resolve ieSig (ieKw m eoKw xo)) (resolve gpeSig (.cons "mode".toList (s m') xoKw)) where
  mode := ieStage.lookup_resolve_pass List.mem_cons_self (lookup_cons_self _ _ _)
  own p d hp := by rw [ieStage.lookup_resolve_own _ hp, lookup_ieKw_own (mem_keys_of_lookup hp)]
  passes := ieStage.lookup_resolve_pass (List.mem_cons_of_mem _ List.mem_cons_self) (lookup_ieKw_ext he)
  gmode := gpeStage.lookup_resolve_pass List.mem_cons_self (lookup_cons_self _ _ _)
  gown p d hp := by
    have h1 : "mode".toList ≠ p := gpeStage.pass_ne_own List.mem_cons_self (mem_keys_of_lookup hp)
    rw [gpeStage.lookup_resolve_own _ hp, lookup_cons_ne h1, hx p d hp]

theorem okMethod_getD (o : Option Tree) :
    okMethod (o.getD (s "splrep")) = true ↔ ∀ v, o = some v → okMethod v = true := by
  cases o with
  | none => exact iff_of_true okMethod_splrep nofun
  | some v => exact ⟨fun h _ e => Option.some.inj e ▸ h, fun h => h v rfl⟩

theorem ieM_eq_ok {m' : String} (hm : gpeMode (s m) = .ok (s m')) (cs : List StageCall) :
    ieM (ieKw m eoKw xo) = .ok cs ↔
      GoodEnv eoKw ∧ ∃ xoKw, unpack (extremaOrLiteral xo) = .ok xoKw ∧ GoodExt xoKw ∧ cs = ieCalls m m' eoKw xo xoKw := by
  have hgpe : ∀ mode xoKw, validCall gpeSig (.cons "mode".toList mode xoKw) = true ↔ GoodExt xoKw := fun _ _ =>
    gpeStage.validCall_iff (List.Perm.refl _)
  simp only [ieM, bind_eq_ok, call_nil_eq_ok, ite_error_eq_ok, pure_eq_ok, ieStage.validCall_iff keys_ieKw,
    goodEnv_iff, ieCalls, hgpe]
  by_cases hg : Good ieOwn.keys eoKw
  · -- the call binds, and the three arguments the function reads are known
    have sp := ieCalls_spec (m := m) (m' := m') (xo := xo) (xoKw := dictOf xo) hg fun _ _ _ => rfl
    simp only [hg, true_and, exists_eq_left, arg_of_lookup sp.mode, arg_of_lookup sp.passes,
      arg_of_lookup (sp.own _ _ ieOwn_method), hm, Except.ok.injEq, exists_eq_left', Bool.not_eq_true, Bool.not_eq_false',
      okMethod_getD, and_assoc, exists_and_left, eq_comm (a := cs)]
  · simp only [hg, false_and, exists_false]

end

/-! ### `get_next_imf(X, **kw)` -/

/-- the five records behind one `get_next_imf(X, **kw)` -/
def gniCalls (kw eoKw xoKw : Assoc) : List StageCall :=
  ⟨.gni, resolve gniSig kw⟩ :: (ieCalls "upper" "peaks" eoKw (kwArg kw "extrema_opts") xoKw ++
    ieCalls "lower" "troughs" eoKw (kwArg kw "extrema_opts") xoKw)

theorem gniM_eq_ok (kw : Assoc) (cs : List StageCall) :
    gniM [] kw = .ok cs ↔ validCall gniSig kw = true ∧
      ∃ eoKw, unpack (noneToEmpty (kwArg kw "envelope_opts")) = .ok eoKw ∧ GoodEnv eoKw ∧
      ∃ xoKw, unpack (extremaOrLiteral (kwArg kw "extrema_opts")) = .ok xoKw ∧ GoodExt xoKw ∧
        cs = gniCalls kw eoKw xoKw := by
  simp only [gniM, bind_eq_ok, call_nil_eq_ok, pure_eq_ok, ieM_eq_ok gpeMode_upper, ieM_eq_ok gpeMode_lower, gniCalls,
    and_assoc, exists_and_left, exists_eq_left, kwArg_of_arg gniSig_env, kwArg_of_arg gniSig_ext]
  constructor
  · rintro ⟨hv, eoKw, he, hg, _, ⟨xoKw, hx, hgx, rfl⟩, _, _, ⟨xoKw', hx', _, rfl⟩, rfl⟩
    cases hx.symm.trans hx'
    exact ⟨hv, eoKw, he, hg, xoKw, hx, hgx, rfl⟩
  · rintro ⟨hv, eoKw, he, hg, xoKw, hx, hgx, rfl⟩
    exact ⟨hv, eoKw, he, hg, _, ⟨xoKw, hx, hgx, rfl⟩, hg, _, ⟨xoKw, hx, hgx, rfl⟩, rfl⟩

theorem gniM_spec {kw : Assoc} {cs : List StageCall} (h : gniM [] kw = .ok cs) :
    ChainObeys kw (dictOf (kwArg kw "envelope_opts")) (dictOf (kwArg kw "extrema_opts")) cs ∧
    validCall gniSig kw = true ∧ OptOK isNone GoodEnv (kwArg kw "envelope_opts") ∧
    OptOK falsy GoodExt (kwArg kw "extrema_opts") := by
  obtain ⟨hv, eoKw, he, hg, xoKw, hx, hgx, rfl⟩ := (gniM_eq_ok kw cs).1 h
  obtain ⟨e1, e2⟩ := orLit_spec absent_isNone (P := GoodEnv) goodEnv_nil (resolve_nil ieOwn)
    ((unpack_orLit rfl _ _).1 he)
  obtain ⟨x1, x2⟩ := orLit_spec absent_falsy (P := GoodExt) good_ieLiteral ieLiteral_resolve
    ((unpack_orLit rfl _ _).1 hx)
  have sU := ieCalls_spec (m := "upper") (m' := "peaks") ((goodEnv_iff _).1 hg).1 x1
  have sL := ieCalls_spec (m := "lower") (m' := "troughs") ((goodEnv_iff _).1 hg).1 x1
  refine ⟨⟨_, _, _, _, _, rfl, fun p d hp => gniStage.lookup_resolve_own kw hp, sU.mode, sL.mode, fun p d hp => ?_,
    sU.gmode, sL.gmode, fun p d hp => ?_⟩, hv, e2.1 hg, x2.1 hgx⟩
  · rw [sU.own p d hp, sL.own p d hp, e1 p d hp]; exact ⟨rfl, rfl⟩
  · rw [sU.gown p d hp, sL.gown p d hp]; exact ⟨rfl, rfl⟩

theorem gniM_ok {kw : Assoc} (hv : validCall gniSig kw = true) (he : OptOK isNone GoodEnv (kwArg kw "envelope_opts"))
    (hx : OptOK falsy GoodExt (kwArg kw "extrema_opts")) : ∃ cs, gniM [] kw = .ok cs ∧ cs ≠ [] := by
  obtain ⟨eoKw, h1, g1⟩ := orLit_ok (lit := .dict .nil) rfl goodEnv_nil he
  obtain ⟨xoKw, h2, g2⟩ := orLit_ok (lit := ieExtremaLiteral) (P := GoodExt) rfl good_ieLiteral hx
  exact ⟨_, (gniM_eq_ok kw _).2 ⟨hv, eoKw, h1, g1, xoKw, h2, g2, rfl⟩, by simp [gniCalls]⟩

/-! ### the chain `get_next_imf(X, envelope_opts=eo, extrema_opts=xo, **ioKw)` every variant runs -/

/-- the keywords `get_next_imf` is reached with by every variant -/
def chainKw (ioKw : Assoc) (eo xo : Tree) : Assoc :=
  .cons "envelope_opts".toList eo (.cons "extrema_opts".toList xo ioKw)

section
variable {ioKw : Assoc} {eo xo : Tree}

theorem validCall_chainKw : validCall gniSig (chainKw ioKw eo xo) = true ↔ GoodImf ioKw :=
  gniStage.validCall_iff (List.Perm.refl _)

theorem kwArg_chainKw :
    kwArg (chainKw ioKw eo xo) "envelope_opts" = eo ∧ kwArg (chainKw ioKw eo xo) "extrema_opts" = xo := by
  have hne := ne_of_nodup_pair (List.nodup_append.1 gniStage.nodup_append).2.1
  simp only [kwArg, chainKw, lookup_cons_self, lookup_cons_ne hne, Option.getD_some, and_self]

theorem lookup_chainKw_own {p : Key} (hp : p ∈ gniOwn.keys) :
    (chainKw ioKw eo xo).lookup p = ioKw.lookup p := by
  have h1 : "envelope_opts".toList ≠ p := gniStage.pass_ne_own List.mem_cons_self hp
  have h2 : "extrema_opts".toList ≠ p := gniStage.pass_ne_own (List.mem_cons_of_mem _ List.mem_cons_self) hp
  rw [chainKw, lookup_cons_ne h1, lookup_cons_ne h2]

def Good2 (eo xo : Tree) : Prop := OptOK isNone GoodEnv eo ∧ OptOK falsy GoodExt xo

theorem chain_spec {cs : List StageCall} (h : chain ioKw eo xo = .ok cs) :
    ChainObeys ioKw (dictOf eo) (dictOf xo) cs ∧ GoodImf ioKw ∧ Good2 eo xo := by
  obtain ⟨ob, hv, he, hx⟩ := gniM_spec (kw := chainKw ioKw eo xo) h
  rw [kwArg_chainKw.1] at ob he
  rw [kwArg_chainKw.2] at ob hx
  exact ⟨ob.congr (fun p d hp => by rw [lookup_chainKw_own (mem_keys_of_lookup hp)]) (fun _ _ _ => rfl) (fun _ _ _ => rfl),
    validCall_chainKw.1 hv, he, hx⟩

theorem chain_ok (hi : GoodImf ioKw) (h2 : Good2 eo xo) :
    ∃ cs, chain ioKw eo xo = .ok cs ∧ cs ≠ [] :=
  gniM_ok (kw := chainKw ioKw eo xo) (validCall_chainKw.2 hi) (by rw [kwArg_chainKw.1]; exact h2.1)
    (by rw [kwArg_chainKw.2]; exact h2.2)

end

end Options
