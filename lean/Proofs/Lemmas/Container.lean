/- Lemmas about the pure functions of EmdModel.Container: the metric store, condition strings and
   matching, subset and chain vectors, and the projection of per-chain values to cycles. -/
import EmdModel.Container
import Proofs.Lemmas.Positions

namespace Container

/-! ### metric store -/

theorem sget_sset_same (m : Store) (k : Name) (v : List Val) : sget (sset m k v) k = some v := by
  induction m with
  | nil => simp [sset, sget]
  | cons e t ih =>
    obtain ⟨n, w⟩ := e
    by_cases h : n = k <;> simp [sset, sget, h, ih]

theorem sget_sset_other {m : Store} {k n : Name} {v : List Val} (h : n ≠ k) : sget (sset m k v) n = sget m n := by
  induction m with
  | nil => simp [sset, sget, Ne.symm h]
  | cons e t ih =>
    obtain ⟨n', w⟩ := e
    by_cases h1 : n' = k
    · subst h1; simp [sset, sget, Ne.symm h]
    · by_cases h2 : n' = n
      · subst h2; simp [sset, sget, h1]
      · simp [sset, sget, h1, h2, ih]

theorem sget_sset_isSome {m : Store} {k n : Name} {v : List Val} (h : (sget m n).isSome = true) :
    (sget (sset m k v) n).isSome = true := by
  by_cases hn : n = k
  · subst hn; simp [sget_sset_same]
  · rw [sget_sset_other hn]; exact h

theorem sget_mem {m : Store} {k : Name} {v : List Val} (h : sget m k = some v) : (k, v) ∈ m := by
  induction m with
  | nil => simp [sget] at h
  | cons e t ih =>
    obtain ⟨n, w⟩ := e
    by_cases hn : n = k
    · simp [sget, hn] at h; simp [hn, h]
    · simp [sget, hn] at h; simp [ih h]

theorem sget_none_iff {m : Store} {k : Name} : sget m k = none ↔ k ∉ m.map (·.1) := by
  induction m with
  | nil => simp [sget]
  | cons e t ih =>
    obtain ⟨n, w⟩ := e
    by_cases hn : n = k
    · simp [sget, hn]
    · simp [sget, hn, ih, Ne.symm hn]

theorem sset_names (m : Store) (k : Name) (v : List Val) :
    (sset m k v).map (·.1) = if k ∈ m.map (·.1) then m.map (·.1) else m.map (·.1) ++ [k] := by
  induction m with
  | nil => simp [sset]
  | cons e t ih =>
    obtain ⟨n, w⟩ := e
    by_cases hn : n = k
    · simp [sset, hn]
    · simp only [sset, hn, ite_false, List.map_cons, ih, List.mem_cons, Ne.symm hn, false_or]
      split <;> simp

theorem sset_nodup {m : Store} {k : Name} {v : List Val} (h : (m.map (·.1)).Nodup) :
    ((sset m k v).map (·.1)).Nodup := by
  rw [sset_names]
  split
  · exact h
  · rename_i hk
    exact List.nodup_append.mpr ⟨h, by simp, by intro a ha b hb; simp at hb; subst hb; intro e; exact hk (e ▸ ha)⟩

theorem sset_lens {m : Store} {k : Name} {v : List Val} {K : Nat} (h : ∀ e ∈ m, e.2.length = K) (hv : v.length = K) :
    ∀ e ∈ sset m k v, e.2.length = K := by
  induction m with
  | nil => simpa [sset] using hv
  | cons e t ih =>
    obtain ⟨n, w⟩ := e
    have ⟨hw, ht⟩ := List.forall_mem_cons.mp h
    by_cases hn : n = k
    · simp only [sset, hn, ite_true]; exact List.forall_mem_cons.mpr ⟨hv, ht⟩
    · simp only [sset, hn, ite_false]; exact List.forall_mem_cons.mpr ⟨hw, ih ht⟩

/-! ### condition strings -/

theorem takeWhile_dropWhile_append {α : Type} (p : α → Bool) (a rest : List α) (ha : ∀ x ∈ a, p x = true)
    (hr : ∀ x, rest.head? = some x → p x = false) :
    (a ++ rest).takeWhile p = a ∧ (a ++ rest).dropWhile p = rest := by
  rw [List.takeWhile_append_of_pos ha, List.dropWhile_append_of_pos ha]
  cases rest with
  | nil => simp
  | cons x t => simp [hr x rfl]

theorem sym_cmpChars (c : Cmp) : ∀ ch ∈ c.sym, isCmpChar ch = true := by
  cases c <;> decide +kernel

theorem recogniseCmp_sym (c : Cmp) (lit : List Char) (hl : ∀ ch, lit.head? = some ch → isCmpChar ch = false) :
    recogniseCmp (c.sym ++ lit) = some c := by
  -- after `<` or `>` the literal must not start with `=`, or the two-character comparator would be read
  have hne : ∀ ch t, lit = ch :: t → ch ≠ '=' := by
    rintro ch t rfl rfl
    exact absurd (hl '=' rfl) (by decide)
  cases c
  case lt =>
    cases lit with
    | nil => rfl
    | cons ch t => simp [Cmp.sym, recogniseCmp, hne ch t rfl]
  case gt =>
    cases lit with
    | nil => rfl
    | cons ch t => simp [Cmp.sym, recogniseCmp, hne ch t rfl]
  all_goals rfl

theorem parseCondition_append (F : List Char → Option Rat) (name comp : List Char) (hn : ∀ ch ∈ name, isCmpChar ch = false)
    (hc : ∀ ch, comp.head? = some ch → isCmpChar ch = true) :
    parseCondition F (name ++ comp) =
      match (generalizing := false) comp with
      | [] => .error .index
      | _ :: _ =>
        match recogniseCmp comp, F (comp.dropWhile isCmpChar) with
        | _, none => .error .value
        | none, some _ => .error .unbound
        | some c, some v => .ok (name, c, v) := by
  have h := takeWhile_dropWhile_append (fun c => !isCmpChar c) name comp (by intro x hx; simp [hn x hx])
    (by intro x hx; simp [hc x hx])
  rw [parseCondition, h.1, h.2]
  cases comp <;> rfl

theorem evalCond_ok_iff (F : List Char → Option Rat) (m : Store) (c : Cond) (col : List Bool) :
    evalCond F m c = .ok col ↔ ∃ name cmp lit mcol, parseCondition F c = .ok (name, cmp, lit) ∧
      sget m name = some mcol ∧ col = mcol.map fun x => cmp.eval x lit := by
  unfold evalCond
  cases hp : parseCondition F c with
  | error e => simp
  | ok r =>
    obtain ⟨name, cmp, lit⟩ := r
    simp only []
    constructor
    · intro h
      cases hg : sget m name with
      | none => simp [hg] at h
      | some mcol => exact ⟨name, cmp, lit, mcol, rfl, hg, by simpa [hg, eq_comm] using h⟩
    · rintro ⟨_, _, _, mcol, ⟨⟩, h2, rfl⟩
      rw [h2]

theorem evalCond_getElem?_iff (F : List Char → Option Rat) (m : Store) (c : Cond) (k : Nat) :
    (∃ col, evalCond F m c = .ok col ∧ col[k]?.getD false = true) ↔
      ∃ name cmp lit mcol x, parseCondition F c = .ok (name, cmp, lit) ∧ sget m name = some mcol ∧
        mcol[k]? = some x ∧ cmp.eval x lit = true := by
  constructor
  · rintro ⟨col, hcol, hk⟩
    obtain ⟨name, cmp, lit, mcol, h1, h2, rfl⟩ := (evalCond_ok_iff F m c col).mp hcol
    cases hx : mcol[k]? with
    | none => simp [hx] at hk
    | some x => exact ⟨name, cmp, lit, mcol, x, h1, h2, hx, by simpa [hx] using hk⟩
  · rintro ⟨name, cmp, lit, mcol, x, h1, h2, hx, he⟩
    exact ⟨_, (evalCond_ok_iff F m c _).mpr ⟨name, cmp, lit, mcol, h1, h2, rfl⟩, by simp [hx, he]⟩

theorem evalConds_all (F : List Char → Option Rat) (m : Store) (conds : List Cond) (cols : List (List Bool))
    (h : evalConds F m conds = .ok cols) (k : Nat) :
    (cols.all fun col => col[k]?.getD false) = true ↔
      ∀ c ∈ conds, ∃ col, evalCond F m c = .ok col ∧ col[k]?.getD false = true := by
  induction conds generalizing cols with
  | nil => simp [evalConds] at h; subst h; simp
  | cons c t ih =>
    simp only [evalConds] at h
    cases hc : evalCond F m c with
    | error e => simp [hc] at h
    | ok col =>
      cases ht : evalConds F m t with
      | error e => simp [hc, ht] at h
      | ok cols' =>
        simp [hc, ht] at h; subst h
        simp only [List.all_cons, Bool.and_eq_true, ih cols' ht, List.mem_cons, forall_eq_or_imp, hc, Except.ok.injEq,
          exists_eq_left']

theorem matching_ok {F : List Char → Option Rat} {m : Store} {conds : List Cond} {v : List Bool}
    (h : matching F m conds = .ok v) :
    ∃ g cols, sget m isGoodName = some g ∧ evalConds F m conds = .ok cols ∧
      v = (List.range g.length).map fun k => cols.all fun col => col[k]?.getD false := by
  unfold matching at h
  cases hg : sget m isGoodName with
  | none => simp [hg] at h
  | some g =>
    cases hc : evalConds F m conds with
    | error e => simp [hg, hc] at h
    | ok cols =>
      simp only [hg, hc, Except.ok.injEq] at h
      exact ⟨g, cols, rfl, rfl, h.symm⟩

/-! ### subset vector -/

theorem subsetFrom_length (c : Nat) (v : List Bool) : (subsetFrom c v).length = v.length := by
  induction v generalizing c with
  | nil => rfl
  | cons b t ih => cases b <;> simp [subsetFrom, ih]

theorem subsetFrom_support (c : Nat) (v : List Bool) : (subsetFrom c v).map (fun j => decide (0 ≤ j)) = v := by
  induction v generalizing c with
  | nil => rfl
  | cons b t ih =>
    cases b
    · simp [subsetFrom, ih]
    · simp only [subsetFrom, List.map_cons, ih, List.cons.injEq, and_true]
      simp

/-! ### chain vector, per-chain values projected to cycles -/

theorem chainFrom_length (p c : Nat) (t : List Nat) : (chainFrom p c t).length = t.length := by
  induction t generalizing p c with
  | nil => rfl
  | cons i t ih => simp only [chainFrom]; split <;> simp [ih]

theorem chainOfSel_length (sel : List Nat) : (chainOfSel sel).length = sel.length := by
  cases sel <;> simp [chainOfSel, chainFrom_length]

theorem lt_nChains (chain : List Nat) : ∀ c ∈ chain, c < nChains chain := by
  intro c hc
  cases chain with
  | nil => simp at hc
  | cons c0 t => exact Nat.lt_succ_of_le ((List.foldl_max_spec c0 t).2 c hc)

/-- stated for any per-chain vector `g 0, …, g (C-1)`: `chain_ind` and every chain metric have this shape -/
theorem projChainToCycles_getElem? (g : Nat → Val) {subset : List Int} (chain : List Nat) {k : Nat} {j : Int}
    (h : subset[k]? = some j) :
    (projChainToCycles ((List.range (nChains chain)).map g) chain subset)[k]? =
      some (if 0 ≤ j then (chain[j.toNat]?).bind g else none) := by
  simp only [projChainToCycles, projSubsetToCycles, projChainToSubset, List.getElem?_map, h, Option.map_some]
  by_cases h0 : 0 ≤ j
  · simp only [h0, ite_true]
    cases hc : chain[j.toNat]? with
    | none => simp
    | some c => simp [List.getElem?_range (lt_nChains chain c (List.mem_of_getElem? hc))]
  · simp [h0]

theorem chainInd_getElem? {subset : List Int} {chain : List Nat} {k : Nat} {j : Int} (h : subset[k]? = some j) :
    (chainInd subset chain)[k]? = some (some (if 0 ≤ j then
        (match chain[j.toNat]? with | some c => (c : Rat) | none => -1) else -1)) := by
  simp only [chainInd, nanToMinusOne, List.getElem?_map, projChainToCycles_getElem? _ _ h, Option.map_some]
  by_cases h0 : 0 ≤ j
  · simp only [h0, ite_true]
    cases chain[j.toNat]? <;> rfl
  · simp [h0]

theorem chainInd_length (subset : List Int) (chain : List Nat) : (chainInd subset chain).length = subset.length := by
  simp [chainInd, nanToMinusOne, projChainToCycles, projSubsetToCycles]

end Container
