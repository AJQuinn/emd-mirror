/- Lemmas about the label vector of EmdModel.Container: run-length encoding, `np.where` positions,
   well-formedness (`WF`), the slice cache and its agreement with label lookup in both metric modes,
   and the code-shaped lookup routes in closed form (they raise exactly when an index has no value). -/
import EmdModel.Container
import Proofs.Lemmas.Positions

namespace Container

def expand (runs : List (Int × Nat)) : List Int := runs.flatMap fun r => List.replicate r.2 r.1

@[simp] theorem expand_nil : expand [] = [] := rfl
@[simp] theorem expand_cons (r : Int × Nat) (t : List (Int × Nat)) :
    expand (r :: t) = List.replicate r.2 r.1 ++ expand t := by simp [expand]

theorem rle_cons (a : Int) (t : List Int) : rle (a :: t) =
    match rle t with
    | (b, n) :: r => if a = b then (b, n + 1) :: r else (a, 1) :: (b, n) :: r
    | [] => [(a, 1)] := by rw [rle]; rfl

theorem rle_expand (cv : List Int) : expand (rle cv) = cv := by
  fun_induction rle cv <;> simp_all [List.replicate_succ]

theorem rle_pos (cv : List Int) : ∀ r ∈ rle cv, 0 < r.2 := by
  fun_induction rle cv with
  | case1 => simp
  | case2 t b n r h ih => rw [h] at ih; exact List.forall_mem_cons.mpr ⟨Nat.succ_pos n, (List.forall_mem_cons.mp ih).2⟩
  | case3 a t b n r h _ ih => rw [h] at ih; exact List.forall_mem_cons.mpr ⟨Nat.one_pos, ih⟩
  | case4 => simp

theorem rle_eq_nil (cv : List Int) : rle cv = [] ↔ cv = [] :=
  ⟨fun h => by simpa [h] using (rle_expand cv).symm, by rintro rfl; rfl⟩

theorem rle_head (a : Int) (t : List Int) : ∃ n r, rle (a :: t) = (a, n) :: r := by
  rw [rle_cons]
  split
  · split
    · rename_i hab; subst hab; exact ⟨_, _, rfl⟩
    · exact ⟨_, _, rfl⟩
  · exact ⟨_, _, rfl⟩

theorem rle_replicate_append (l : Int) (n : Nat) (rest : List Int)
    (h : ∀ x, rest.head? = some x → x ≠ l) :
    rle (List.replicate (n + 1) l ++ rest) = (l, n + 1) :: rle rest := by
  induction n with
  | zero =>
    simp only [Nat.zero_add, List.replicate_one, List.singleton_append]
    cases rest with
    | nil => rfl
    | cons x t =>
      obtain ⟨m, r, hr⟩ := rle_head x t
      have hx : x ≠ l := h x (by simp)
      rw [rle_cons l, hr]
      simp [Ne.symm hx]
  | succ n ih =>
    rw [List.replicate_succ, List.cons_append, rle_cons, ih]
    simp

theorem mem_expand {runs : List (Int × Nat)} {l : Int} : l ∈ expand runs ↔ ∃ r ∈ runs, 0 < r.2 ∧ r.1 = l := by
  simp [expand, Nat.pos_iff_ne_zero, eq_comm]

/-! ### positions of a label -/

theorem indicesFrom_eq {α : Type} (p : α → Bool) (i : Nat) (l : List α) : indicesFrom p i l = l.positions p i := by
  induction l generalizing i with
  | nil => rfl
  | cons a t ih => simp [indicesFrom, List.positions_cons, ih]

theorem mem_indicesOf {cv : List Int} {k : Int} {i : Nat} : i ∈ indicesOf cv k ↔ cv[i]? = some k := by
  simp [indicesOf, indicesFrom_eq, List.mem_positions]

theorem indicesOf_lt (cv : List Int) (k : Int) : ∀ i ∈ indicesOf cv k, i < cv.length :=
  fun _ hi => (List.getElem?_eq_some_iff.mp (mem_indicesOf.mp hi)).1

theorem positions_expand_cons (k l : Int) (n off : Nat) (t : List (Int × Nat)) :
    (expand ((l, n) :: t)).positions (fun x => decide (x = k)) off =
      (if l = k then List.range' off n else []) ++ (expand t).positions (fun x => decide (x = k)) (off + n) := by
  rw [expand_cons, List.positions_append, List.length_replicate]
  split
  · rw [List.positions_replicate _ _ _ _ (by simpa)]
  · rw [List.positions_eq_nil _ _ _ fun x hx => by simpa [(List.mem_replicate.mp hx).2]]

def LabelsFrom (c m : Nat) (runs : List (Int × Nat)) : Prop :=
  (runs.filter fun r => decide (0 ≤ r.1)).map (·.1) = (List.range' c m).map Int.ofNat

theorem labelsFrom_cons_pos {c m : Nat} {l : Int} {n : Nat} {t : List (Int × Nat)} (hl : 0 ≤ l)
    (h : LabelsFrom c m ((l, n) :: t)) : ∃ m', m = m' + 1 ∧ l = (c : Int) ∧ LabelsFrom (c + 1) m' t := by
  simp only [LabelsFrom, List.filter_cons, hl, decide_true, ite_true, List.map_cons] at h
  cases m with
  | zero => simp at h
  | succ m' =>
    simp only [List.range'_succ, List.map_cons, List.cons.injEq] at h
    exact ⟨m', rfl, h.1, h.2⟩

theorem labelsFrom_mem {c m : Nat} {runs : List (Int × Nat)} (h : LabelsFrom c m runs) (l : Int) :
    (∃ r ∈ runs, 0 ≤ r.1 ∧ r.1 = l) ↔ ∃ k : Nat, (c ≤ k ∧ k < c + m) ∧ (k : Int) = l := by
  have := congrArg (l ∈ ·) h
  simpa only [List.mem_map, List.mem_filter, List.mem_range'_1, decide_eq_true_eq, and_assoc, Nat.one_mul,
    Int.ofNat_eq_natCast, eq_iff_iff] using this

theorem labelsFrom_range {c m : Nat} {runs : List (Int × Nat)} (h : LabelsFrom c m runs) {l : Int}
    (hl : l ∈ expand runs) : l < 0 ∨ (c : Int) ≤ l ∧ l < ((c + m : Nat) : Int) := by
  obtain ⟨r, hr, -, rfl⟩ := mem_expand.mp hl
  by_cases h0 : 0 ≤ r.1
  · obtain ⟨k, hk, e⟩ := (labelsFrom_mem h r.1).mp ⟨r, hr, h0, rfl⟩
    omega
  · omega

theorem slice_indices (runs : List (Int × Nat)) (c m off j : Nat) (hpos : ∀ r ∈ runs, 0 < r.2)
    (h : LabelsFrom c m runs) (hj : j < m) :
    ∃ a b, (sliceFrom off runs)[j]? = some (a, b) ∧ a < b ∧
      (expand runs).positions (fun l => decide (l = ((c + j : Nat) : Int))) off = List.range' a (b - a) := by
  induction runs generalizing c m off j with
  | nil =>
    simp [LabelsFrom] at h
    omega
  | cons r t ih =>
    obtain ⟨l, n⟩ := r
    have hn : 0 < n := hpos (l, n) (by simp)
    have hpos' : ∀ r ∈ t, 0 < r.2 := fun r hr => hpos r (by simp [hr])
    rw [positions_expand_cons]
    by_cases hl : 0 ≤ l
    · obtain ⟨m', rfl, rfl, h'⟩ := labelsFrom_cons_pos hl h
      cases j with
      | zero =>
        -- the first labelled run is the slice, and its label does not come back
        refine ⟨off, off + n, by simp [sliceFrom], by omega, ?_⟩
        have hne : ∀ x ∈ expand t, decide (x = (c : Int)) = false := fun x hx =>
          decide_eq_false (by have := labelsFrom_range h' hx; omega)
        rw [Nat.add_zero, if_pos rfl, List.positions_eq_nil _ _ _ hne, List.append_nil, Nat.add_sub_cancel_left]
      | succ j' =>
        obtain ⟨a, b, h1, h2, h5⟩ := ih (c + 1) m' (off + n) j' hpos' h' (by omega)
        refine ⟨a, b, by simpa [sliceFrom] using h1, h2, ?_⟩
        rw [if_neg (by omega), List.nil_append, show c + (j' + 1) = c + 1 + j' by omega, h5]
    · obtain ⟨a, b, h1, h2, h5⟩ := ih c m (off + n) j hpos' (by simpa [LabelsFrom, hl] using h) hj
      exact ⟨a, b, by simpa [sliceFrom, hl] using h1, h2, by rw [if_neg (by omega), List.nil_append, h5]⟩

theorem sliceFrom_length (runs : List (Int × Nat)) (off : Nat) :
    (sliceFrom off runs).length = (runs.filter fun r => decide (0 ≤ r.1)).length := by
  induction runs generalizing off with
  | nil => rfl
  | cons r t ih =>
    obtain ⟨l, n⟩ := r
    by_cases hl : 0 ≤ l <;> simp [sliceFrom, hl, ih]

/-! ### well-formed label vectors -/

/-- the labelled runs of the vector carry the labels 0 … K-1 in temporal order
    (so every label is one contiguous block); other runs carry negative labels -/
def WF (cv : List Int) (K : Nat) : Prop := LabelsFrom 0 K (rle cv)

/-- what the container's label vector satisfies: well formed, and complete as soon as there is a cycle -/
def CvOK (cv : List Int) (K : Nat) : Prop := WF cv K ∧ (0 < K → ∀ l ∈ cv, 0 ≤ l)

variable {cache : Bool} {mode : Mode} {f : List Rat → Rat} {thr : Rat} {ph : List Rat} {cv : List Int} {K : Nat}
  {vals : List Rat}

theorem sliceCache_length (h : WF cv K) : (sliceCache cv).length = K := by
  unfold sliceCache
  rw [sliceFrom_length]
  have := congrArg List.length h
  simpa using this

theorem slice_spec (h : WF cv K) (k : Nat) (hk : k < K) :
    ∃ a b, (sliceCache cv)[k]? = some (a, b) ∧ a < b ∧ indicesOf cv (k : Int) = List.range' a (b - a) := by
  obtain ⟨a, b, h1, h2, h5⟩ := slice_indices (rle cv) 0 K 0 k (rle_pos cv) h hk
  rw [rle_expand, Nat.zero_add, ← indicesFrom_eq] at h5
  exact ⟨a, b, h1, h2, h5⟩

theorem label_lt_of_mem_cv (h : WF cv K) {l : Int} (hl : l ∈ cv) : l < K := by
  rw [← rle_expand cv] at hl
  have := labelsFrom_range h hl
  omega

theorem label_mem_cv (h : WF cv K) (k : Nat) (hk : k < K) : (k : Int) ∈ cv := by
  obtain ⟨r, hr, -, e⟩ := (labelsFrom_mem h k).mpr ⟨k, by omega, rfl⟩
  rw [← rle_expand cv]
  exact mem_expand.mpr ⟨r, hr, rle_pos cv r hr, e⟩

theorem nLabels_eq (h : WF cv K) : nLabels cv = K :=
  List.foldl_max_succ_toNat cv K (fun _ => label_lt_of_mem_cv h) (label_mem_cv h)

/-! ### values through positions -/

theorem samplesOf_eq_gather (k : Int) :
    samplesOf cv vals k = (indicesOf cv k).filterMap (vals[·]?) := by
  rw [indicesOf, indicesFrom_eq]
  exact List.filter_zip_positions (fun l => decide (l = k)) cv vals

theorem sliceVals_eq_gather (a b : Nat) :
    sliceVals vals (a, b) = (List.range' a (b - a)).filterMap (vals[·]?) := by
  simp only [sliceVals]
  generalize b - a = n
  induction n generalizing a with
  | zero => simp
  | succ n ih =>
    rw [List.range'_succ, List.filterMap_cons, ← ih]
    by_cases ha : a < vals.length
    · rw [List.getElem?_eq_getElem ha, List.drop_eq_getElem_cons ha, List.take_succ_cons]
    · rw [List.getElem?_eq_none (Nat.le_of_not_lt ha), List.drop_eq_nil_of_le (Nat.le_of_not_lt ha),
        List.drop_eq_nil_of_le (Nat.le_succ_of_le (Nat.le_of_not_lt ha))]
      simp

theorem slice_eq_samples (h : WF cv K) (k : Nat) (hk : k < K) :
    ∃ s, (sliceCache cv)[k]? = some s ∧ sliceVals vals s = samplesOf cv vals (k : Int) := by
  obtain ⟨a, b, h1, -, h4⟩ := slice_spec h k hk
  exact ⟨(a, b), h1, by rw [samplesOf_eq_gather, h4, sliceVals_eq_gather]⟩

/-! ### augmented segments -/

theorem augSlices_eq (prev : Option (Nat × Nat)) (sl : List (Nat × Nat)) :
    augSlices thr ph prev sl = List.zipWith
      (fun p s => p.bind fun p => (firstAbove thr ph (List.range' p.1 (p.2 - p.1))).map fun i => (i, s.2))
      (prev :: sl.map some) sl := by
  induction sl generalizing prev with
  | nil => rfl
  | cons x t ih =>
    simp only [augSlices, ih, List.map_cons, List.zipWith_cons_cons]
    cases prev <;> rfl

theorem augSlices_length (prev : Option (Nat × Nat)) (sl : List (Nat × Nat)) :
    (augSlices thr ph prev sl).length = sl.length := by
  simp [augSlices_eq]

/-- cycle 0 has no augmented segment: the lookup searches the samples labelled -1, and a complete vector has none -/
theorem augInds_zero (h : ∀ l ∈ cv, 0 ≤ l) : augInds thr ph cv 0 = none := by
  have : indicesOf cv (-1) = [] := List.eq_nil_iff_forall_not_mem.mpr fun i hi => by
    have := h _ (List.mem_of_getElem? (mem_indicesOf.mp hi)); omega
  simp [augInds, this, firstAbove]

theorem augInds_succ (k a b a' b' : Nat)
    (hprev : indicesOf cv (k : Int) = List.range' a' (b' - a'))
    (hcur : indicesOf cv ((k + 1 : Nat) : Int) = List.range' a (b - a)) (hab : a < b) :
    augInds thr ph cv (k + 1) = (firstAbove thr ph (List.range' a' (b' - a'))).map fun t => (t, b) := by
  unfold augInds
  rw [show ((k + 1 : Nat) : Int) - 1 = (k : Int) by omega, hprev, hcur, List.getLast?_range', if_neg (by omega)]
  cases firstAbove thr ph (List.range' a' (b' - a')) with
  | none => rfl
  | some t => exact congrArg (fun e => some (t, e)) (show a + (b - a) - 1 + 1 = b by omega)

theorem augSlices_sliceCache_getElem? (h : CvOK cv K) (k : Nat) (hk : k < K) :
    (augSlices thr ph none (sliceCache cv))[k]? = some (augInds thr ph cv k) := by
  obtain ⟨a, b, h1, h2, h4⟩ := slice_spec h.1 k hk
  rw [augSlices_eq, List.getElem?_zipWith, h1]
  cases k with
  | zero => rw [augInds_zero (h.2 hk)]; rfl
  | succ k' =>
    obtain ⟨a', b', h1', -, h4'⟩ := slice_spec h.1 k' (by omega)
    rw [augInds_succ k' a b a' b' h4' h4 h2]
    simp [h1']

/-! ### the vector `compute_cycle_metric` stores -/

/-- the vector `cycleStat` returns when it returns (`cycleStat_eq_ok`, `cycleStat_cache_ok`) -/
def cycleStatV (cache : Bool) (mode : Mode) (f : List Rat → Rat) (thr : Rat) (ph : List Rat)
    (cv : List Int) (vals : List Rat) : List Val :=
  match cache, mode with
  | false, .cycle => lookupStat f cv vals
  | true, .cycle => sliceStat f vals ((sliceCache cv).map some)
  | false, .augmented => lookupAugStat f thr ph cv vals
  | true, .augmented => sliceStat f vals (augSlices thr ph none (sliceCache cv))

theorem cycleStatV_length (h : WF cv K) : (cycleStatV cache mode f thr ph cv vals).length = K := by
  cases cache <;> cases mode <;>
    simp [cycleStatV, lookupStat, lookupAugStat, sliceStat, nLabels_eq h, sliceCache_length h, augSlices_length]

theorem cycleStatV_eq_lookup (h : CvOK cv K) :
    cycleStatV cache mode f thr ph cv vals = cycleStatV false mode f thr ph cv vals := by
  cases cache
  · rfl
  apply List.ext_getElem?
  intro k
  rcases Nat.lt_or_ge k K with hk | hk
  · cases mode with
    | cycle =>
      obtain ⟨s, hs, he⟩ := slice_eq_samples (vals := vals) h.1 k hk
      simp [cycleStatV, sliceStat, lookupStat, nLabels_eq h.1, hs, he, List.getElem?_range hk]
    | augmented =>
      simp only [cycleStatV, sliceStat, lookupAugStat, nLabels_eq h.1, List.getElem?_map,
        augSlices_sliceCache_getElem? h k hk, List.getElem?_range hk, Option.map_some]
  · rw [List.getElem?_eq_none (by rw [cycleStatV_length h.1]; exact hk),
      List.getElem?_eq_none (by rw [cycleStatV_length h.1]; exact hk)]

/-! ### the code-shaped lookup routes: integer-array indexing raises on a short value vector -/

/-- `CycleStats.sequence_map_ite` is the same statement for the loop of the C14 model, which has its own error type -/
theorem collect_map_ite {α : Type} (l : List α) (p : α → Prop) [DecidablePred p] (g : α → Val) (e : Err) :
    collect (l.map fun a => if p a then .ok (g a) else .error e) = if ∀ a ∈ l, p a then .ok (l.map g) else .error e := by
  induction l with
  | nil => rfl
  | cons a t ih =>
    simp only [List.map_cons, List.forall_mem_cons]
    by_cases ha : p a
    · rw [if_pos ha, collect, ih]
      simp only [ha, true_and]
      by_cases ht : ∀ b ∈ t, p b
      · rw [if_pos ht, if_pos ht]
      · rw [if_neg ht, if_neg ht]
    · simp [collect, ha]

theorem fancy_eq (inds : List Nat) :
    fancy vals inds = if ∀ i ∈ inds, i < vals.length then .ok (inds.filterMap (vals[·]?)) else .error .index := by
  unfold fancy
  by_cases h : ∀ i ∈ inds, i < vals.length
  · rw [if_pos (by simpa using h), if_pos h, List.filterMap_getElem?_of_lt _ 0 _ h]
  · rw [if_neg (by simpa using h), if_neg h]

theorem lookupStatE_eq :
    lookupStatE f cv vals =
      if ∀ k ∈ List.range (nLabels cv), ∀ i ∈ indicesOf cv (k : Int), i < vals.length then .ok (lookupStat f cv vals)
      else .error .index := by
  rw [lookupStatE, lookupStat, ← collect_map_ite]
  congr 1
  refine List.map_congr_left fun k _ => ?_
  rw [fancy_eq, samplesOf_eq_gather]
  split <;> rfl

theorem lookupAugStatE_eq :
    lookupAugStatE f thr ph cv vals =
      if ∀ k ∈ List.range (nLabels cv), ∀ s, augInds thr ph cv k = some s → ∀ i ∈ List.range' s.1 (s.2 - s.1), i < vals.length
      then .ok (lookupAugStat f thr ph cv vals) else .error .index := by
  rw [lookupAugStatE, lookupAugStat, ← collect_map_ite]
  congr 1
  refine List.map_congr_left fun k _ => ?_
  cases augInds thr ph cv k with
  | none => simp
  | some s =>
    simp only []
    rw [fancy_eq, sliceVals_eq_gather]
    by_cases h : ∀ i ∈ List.range' s.1 (s.2 - s.1), i < vals.length
    · rw [if_pos h, if_pos fun _ e => Option.some.inj e ▸ h]; rfl
    · rw [if_neg h, if_neg fun h' => h (h' s rfl)]; rfl

theorem augInds_stop_le (k : Nat) (s : Nat × Nat)
    (h : augInds thr ph cv k = some s) : s.2 ≤ cv.length := by
  unfold augInds at h
  split at h
  · cases h
  · split at h
    · cases h
    · rename_i e he
      simp only [Option.some.injEq] at h
      subst h
      have := indicesOf_lt cv _ e (List.mem_of_getLast? he)
      omega

theorem cycleStat_eq_ok (hv : vals.length = cv.length) :
    cycleStat cache mode f thr ph cv vals = .ok (cycleStatV cache mode f thr ph cv vals) := by
  cases cache <;> cases mode <;> simp only [cycleStat, cycleStatV]
  · rw [lookupStatE_eq, if_pos]
    intro k _ i hi
    have := indicesOf_lt cv _ i hi
    omega
  · rw [lookupAugStatE_eq, if_pos]
    intro k _ s hs i hi
    have := augInds_stop_le k s hs
    have := List.mem_range'_1.mp hi
    omega

theorem cycleStat_cache_ok :
    cycleStat true mode f thr ph cv vals = .ok (cycleStatV true mode f thr ph cv vals) := by
  cases mode <;> rfl

end Container
