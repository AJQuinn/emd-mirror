/- Lemmas about the two constructors of EmdModel.Maps (`get_subset_vector`, `get_chain_vector`) and about `nLabels`
   (`np.max(v) + 1`). -/
import Proofs.Lemmas.Maps

namespace Maps

/-! ### get_subset_vector -/

theorem subsetFrom_length (c : Nat) (v : List Bool) : (subsetFrom c v).length = v.length := by
  induction v generalizing c with
  | nil => simp [subsetFrom]
  | cons b t ih => cases b <;> simp [subsetFrom, ih]

theorem subsetFrom_getElem? (c : Nat) (v : List Bool) (i : Nat) :
    (subsetFrom c v)[i]? =
      (v[i]?).map fun b => if b then ((c + (v.take i).count true : Nat) : Int) else -1 := by
  induction v generalizing c i with
  | nil => simp [subsetFrom]
  | cons b t ih =>
    cases i with
    | zero => cases b <;> simp [subsetFrom]
    | succ i =>
      cases b
      · simp [subsetFrom, ih]
      · simp only [subsetFrom, List.getElem?_cons_succ, ih, List.take_succ_cons, List.count_cons_self]
        cases t[i]? with
        | none => simp
        | some b => cases b <;> simp <;> omega

theorem subsetFrom_ge (c : Nat) (v : List Bool) : ∀ l ∈ subsetFrom c v, l = -1 ∨ (c : Int) ≤ l := by
  intro l hl
  obtain ⟨i, hi⟩ := List.mem_iff_getElem?.mp hl
  rw [subsetFrom_getElem?] at hi
  cases hv : v[i]? with
  | none => simp [hv] at hi
  | some b => cases b <;> simp [hv] at hi <;> omega

variable {valids : List Bool}

theorem subsetVector_eq_some {k j : Nat} :
    (subsetVector valids)[k]? = some (j : Int) ↔ valids[k]? = some true ∧ (valids.take k).count true = j := by
  rw [subsetVector, subsetFrom_getElem?]
  cases valids[k]? with
  | none => simp
  | some b => cases b <;> simp <;> omega

theorem subsetFrom_map_selected (c : Nat) (v : List Bool) :
    (subsetFrom c v).map (fun l => decide (-1 < l)) = v := by
  induction v generalizing c with
  | nil => rfl
  | cons b t ih => cases b <;> simp [subsetFrom, ih] <;> omega

theorem selected_subsetVector :
    selected (subsetVector valids) = valids.positions (· == true) 0 := by
  conv => rhs; rw [← subsetFrom_map_selected 0 valids, List.positions_map]
  simp [selected, selectedFrom_eq, subsetVector]

theorem selected_subsetVector_length :
    (selected (subsetVector valids)).length = valids.count true := by
  rw [selected_subsetVector, List.length_positions]; rfl

theorem whereEq_subsetVector {j : Nat} :
    whereEq (subsetVector valids) j = ((selected (subsetVector valids))[j]?).toList := by
  refine List.eq_of_sorted_of_mem_iff (whereFrom_sorted _ _ _)
    (by cases (selected (subsetVector valids))[j]? <;> simp) fun k => ?_
  rw [mem_whereEq, subsetVector_eq_some, selected_subsetVector, Option.mem_toList, List.positions_getElem?_eq_some]
  simp [List.count_eq_countP]

theorem subsetFromFlags_eq (c : Nat) (flags : List Int) :
    subsetFromFlags c flags = subsetFrom c (flags.map fun x => decide (x ≠ 0)) := by
  induction flags generalizing c with
  | nil => rfl
  | cons x t ih => by_cases hx : x = 0 <;> simp [subsetFromFlags, subsetFrom, hx, ih]

/-! ### maxima of label vectors -/

theorem maxLabel_mem_or (v : List Int) : maxLabel v = -1 ∨ maxLabel v ∈ v :=
  List.mem_cons.mp (List.foldl_max_spec (-1) v).1

variable {v : List Int}

theorem le_maxLabel {x : Int} (hx : x ∈ v) : x ≤ maxLabel v :=
  (List.foldl_max_spec (-1) v).2 x (List.mem_cons_of_mem _ hx)

theorem exists_ge_of_lt_nLabels {c : Nat} (h : c < nLabels v) :
    ∃ x ∈ v, (c : Int) ≤ x := by
  unfold nLabels at h
  rcases maxLabel_mem_or v with hm | hm
  · rw [hm] at h; simp at h
  · exact ⟨maxLabel v, hm, by omega⟩

theorem toNat_lt_nLabels {x : Int} (h0 : 0 ≤ x) (h : x ∈ v) : x.toNat < nLabels v := by
  have := le_maxLabel h
  unfold nLabels; omega

theorem nLabels_eq {n : Nat} (hr : ∀ l ∈ v, l < (n : Int)) (ho : ∀ k < n, (k : Int) ∈ v) :
    nLabels v = n := List.foldl_max_succ_toNat v n hr ho

/-! ### get_chain_vector -/

theorem chainFrom_length (count prev : Nat) (t : List Nat) :
    (chainFrom count prev t).length = t.length := by
  induction t generalizing count prev with
  | nil => simp [chainFrom]
  | cons i t ih =>
    unfold chainFrom
    split
    · simp [ih]
    · split <;> simp [ih]

theorem chainFrom_cons {count prev i : Nat} {t : List Nat} (h : prev < i) :
    chainFrom count prev (i :: t) =
      ((if i = prev + 1 then count else count + 1 : Nat) : Int) ::
        chainFrom (if i = prev + 1 then count else count + 1) i t := by
  rw [chainFrom]
  by_cases h1 : i = prev + 1
  · simp only [h1, if_true]
  · simp only [h1, if_false, if_pos (show prev + 1 < i by omega)]

theorem chainFrom_rec (count : Nat) {prev : Nat} {t : List Nat} (hs : (prev :: t).Pairwise (· < ·)) :
    ∀ {m a b : Nat} {x : Int}, (prev :: t)[m]? = some a → (prev :: t)[m + 1]? = some b →
      ((count : Int) :: chainFrom count prev t)[m]? = some x →
      ((count : Int) :: chainFrom count prev t)[m + 1]? = some (if b = a + 1 then x else x + 1) := by
  induction t generalizing count prev with
  | nil => intro m a b x _ hb; simp at hb
  | cons i t ih =>
    obtain ⟨hpi, hs'⟩ := List.pairwise_cons.mp hs
    rw [chainFrom_cons (hpi i (by simp))]
    intro m a b x ha hb hx
    cases m with
    | zero =>
      simp at ha hb hx
      subst ha hb hx
      by_cases h : i = prev + 1 <;> simp [h]
    | succ m => exact ih _ hs' ha hb hx

theorem chainVector_length (sv : List Int) : (chainVector sv).length = (selected sv).length := by
  unfold chainVector
  split
  · rename_i h; simp [h]
  · rename_i i t h; simp [h, chainFrom_length]

theorem chainVector_head (sv : List Int) (h : selected sv ≠ []) : (chainVector sv)[0]? = some 0 := by
  unfold chainVector
  split
  · rename_i h'; exact absurd h' h
  · simp

variable {sv : List Int}

theorem chainVector_rec {m a b : Nat} {x : Int}
    (ha : (selected sv)[m]? = some a) (hb : (selected sv)[m + 1]? = some b)
    (hx : (chainVector sv)[m]? = some x) :
    (chainVector sv)[m + 1]? = some (if b = a + 1 then x else x + 1) := by
  unfold chainVector at hx ⊢
  split at hx
  · simp at hx
  · rename_i i t hsel
    have hs : (i :: t).Pairwise (· < ·) := by rw [← hsel]; exact selected_sorted sv
    rw [hsel] at ha hb
    exact chainFrom_rec 0 hs ha hb (by simpa using hx)

theorem chainVector_step {j : Nat} {x y : Int} (hx : (chainVector sv)[j]? = some x)
    (hy : (chainVector sv)[j + 1]? = some y) : y = x ∨ y = x + 1 := by
  have hj : j + 1 < (selected sv).length := by rw [← chainVector_length]; exact (List.getElem?_eq_some_iff.mp hy).1
  have := chainVector_rec (List.getElem?_eq_getElem (by omega)) (List.getElem?_eq_getElem hj) hx
  rw [hy, Option.some.injEq] at this
  split at this <;> omega

/-- d subset cycles further on, the chain number is unchanged exactly when the cycle index has
    advanced by exactly d (every cycle in between is selected); it never decreases -/
theorem chain_gap {m d a b : Nat} {x y : Int} (ha : (selected sv)[m]? = some a) (hb : (selected sv)[m + d]? = some b)
    (hx : (chainVector sv)[m]? = some x) (hy : (chainVector sv)[m + d]? = some y) :
    x ≤ y ∧ a + d ≤ b ∧ (y = x ↔ b = a + d) := by
  induction d generalizing b y with
  | zero =>
    cases ha.symm.trans hb
    cases hx.symm.trans hy
    exact ⟨Int.le_refl _, Nat.le_refl _, by simp⟩
  | succ d ih =>
    have hlt : m + d + 1 < (selected sv).length := (List.getElem?_eq_some_iff.mp hb).1
    obtain ⟨b', hb'⟩ : ∃ b', (selected sv)[m + d]? = some b' := ⟨_, List.getElem?_eq_getElem (by omega)⟩
    obtain ⟨y', hy'⟩ : ∃ y', (chainVector sv)[m + d]? = some y' :=
      ⟨_, List.getElem?_eq_getElem (by rw [chainVector_length]; omega)⟩
    have hstep : b' < b := by
      obtain ⟨h', rfl⟩ := List.getElem?_eq_some_iff.mp hb'
      obtain ⟨-, rfl⟩ := List.getElem?_eq_some_iff.mp hb
      exact List.pairwise_iff_getElem.mp (selected_sorted sv) _ _ h' hlt (by omega)
    obtain ⟨h1, h2, h3⟩ := ih hb' hy'
    cases (chainVector_rec hb' hb hy').symm.trans hy
    split <;> omega

theorem chainVector_nonneg {x : Int} (hx : x ∈ chainVector sv) : 0 ≤ x := by
  obtain ⟨j, hj⟩ := List.mem_iff_getElem?.mp hx
  have hlt : j < (selected sv).length := by rw [← chainVector_length]; exact (List.getElem?_eq_some_iff.mp hj).1
  have h0 := chainVector_head sv (List.ne_nil_of_length_pos (by omega))
  exact (chain_gap (d := j) (List.getElem?_eq_getElem (by omega))
    (by rw [Nat.zero_add]; exact List.getElem?_eq_getElem hlt) h0 (by rw [Nat.zero_add]; exact hj)).1

/-- chain numbers form an initial segment: each step is 0 or 1, so nothing is skipped -/
theorem chainVector_occurs {c : Nat} (h : c < nLabels (chainVector sv)) :
    (c : Int) ∈ chainVector sv := by
  obtain ⟨x, hx, hc⟩ := exists_ge_of_lt_nLabels h
  obtain ⟨j, hj⟩ := List.mem_iff_getElem?.mp hx
  induction j generalizing x with
  | zero =>
    have h0 := chainVector_head sv (by intro he; simp [chainVector, he] at hx)
    rw [h0] at hj; injection hj with hj
    have : (c : Int) = 0 := by omega
    rw [this]; exact List.mem_of_getElem? h0
  | succ j ih =>
    have hy := List.getElem?_eq_getElem (show j < (chainVector sv).length by
      have := (List.getElem?_eq_some_iff.mp hj).1; omega)
    have hstep := chainVector_step hy hj
    by_cases hcx : (c : Int) = x
    · rw [hcx]; exact hx
    · exact ih _ (List.mem_of_getElem? hy) (by omega) hy

end Maps
