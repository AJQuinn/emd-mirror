/- `Ensemble.meanOver`, the mean over the members of an ensemble / the phases of a mask: its samples, the mean of
   equal members, scalar multiples. -/
import EmdModel.Ensemble
import Proofs.Lemmas.Sig

namespace Ensemble

theorem length_meanOver (n : Nat) (cs : List Sig) (hc : ∀ c, c ∈ cs → c.length = n) :
    (meanOver n cs).length = n := by
  simp [meanOver, Sig.length_vsum n cs hc]

theorem sval_meanOver (n t : Nat) (cs : List Sig) (ht : t < n) (hc : ∀ c, c ∈ cs → c.length = n) :
    Sig.sval (meanOver n cs) t = (cs.map (fun c => Sig.sval c t)).sum / (cs.length : Rat) := by
  have hl := Sig.length_vsum n cs hc
  unfold meanOver Sig.sval
  rw [List.getElem?_map, Sig.getElem?_eq_sval _ t (by omega), Sig.sval_vsum n t cs ht hc]
  rfl

theorem sval_meanOver_map {ι : Type} (n t : Nat) (l : List ι) (f : ι → Sig) (ht : t < n)
    (hf : ∀ i ∈ l, (f i).length = n) :
    Sig.sval (meanOver n (l.map f)) t = (l.map fun i => Sig.sval (f i) t).sum / (l.length : Rat) := by
  rw [sval_meanOver n t _ ht fun c hc => by obtain ⟨i, hi, rfl⟩ := List.mem_map.mp hc; exact hf i hi,
    List.map_map, List.length_map]
  rfl

theorem meanOver_replicate (n k : Nat) (r : Sig) (hk : 0 < k) (hr : r.length = n) :
    meanOver n (List.replicate k r) = r := by
  have hc : ∀ c, c ∈ List.replicate k r → c.length = n := by
    intro c h; rw [(List.mem_replicate.mp h).2]; exact hr
  apply Sig.ext_sval _ _ n (length_meanOver n _ hc) hr
  intro t ht
  rw [sval_meanOver n t _ ht hc]
  simp only [List.map_replicate, List.length_replicate, Sig.sum_replicate]
  have : (k : Rat) ≠ 0 := by exact_mod_cast Nat.ne_of_gt hk
  grind

theorem meanOver_smul (c : Rat) (n : Nat) (cs : List Sig) :
    meanOver n (cs.map (Sig.smul c)) = Sig.smul c (meanOver n cs) := by
  rw [meanOver, Sig.vsum_smul, List.length_map, Sig.map_div_smul]
  rfl

end Ensemble
