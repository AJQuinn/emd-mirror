/- Lemmas about EmdModel.Logger: `setLevel` on the two kinds of state, the wrappers leave the state as they found it,
   one operation in closed form (`step_isCall_state`, `step_result`), `traj` as the scan of which `run` is the fold. -/
import EmdModel.Logger

namespace Logger

@[simp] theorem setLevel_console_none (s : LogState) (l : Level) (h : s.console = none) :
    setLevel s l = s := by
  unfold setLevel; simp [h]

theorem setLevel_of_some (s : LogState) (l c : Level) (h : s.console = some c) :
    setLevel s l = { s with console := some l } := by
  unfold setLevel; simp [h]

theorem setLevel_setLevel (s : LogState) (a b : Level) :
    setLevel (setLevel s a) b = setLevel s b := by
  cases h : s.console with
  | none => simp [h]
  | some c => simp [setLevel, h]

theorem setLevel_same (s : LogState) (c : Level) (h : s.console = some c) : setLevel s c = s := by
  cases s; simp_all [setLevel]

@[simp] theorem setLevel_disabled (s : LogState) (l : Level) : (setLevel s l).disabled = s.disabled := by
  unfold setLevel; split <;> rfl

theorem setLevel_console (s : LogState) (l : Level) :
    (setLevel s l).console = s.console.map (fun _ => l) := by
  unfold setLevel; split <;> simp_all

theorem wrapVerbose_state (s : LogState) (v : Option Level) (o : Outcome) :
    (wrapVerbose s v o).1 = s := by
  unfold wrapVerbose
  cases v with
  | none => rfl
  | some tmp =>
    cases h : s.console with
    | none => simp [h]
    | some c => simp only [setLevel_setLevel]; exact setLevel_same s c h

theorem wrapVerbose_result (s : LogState) (v : Option Level) (o : Outcome) :
    (wrapVerbose s v o).2.result = ownResult o := by
  unfold wrapVerbose; cases v <;> rfl

theorem wrapVerboseBad_state (s : LogState) (o : Outcome) : (wrapVerboseBad s o).1 = s := by
  unfold wrapVerboseBad; split <;> rfl

theorem step_isCall_state (s : LogState) (op : Op) (h : op.isCall = true) : (step s op).1 = s := by
  cases op with
  | call v o => exact wrapVerbose_state s v o
  | callBad o => exact wrapVerboseBad_state s o
  | _ => cases h

theorem step_result (s : LogState) (op : Op) :
    (step s op).2.map (·.result) = match op with
      | .call _ o => some (ownResult o)
      | .callBad o => some (if s.console.isSome then .raisedWrapper else ownResult o)
      | _ => none := by
  cases op with
  | call v o => exact congrArg some (wrapVerbose_result s v o)
  | callBad o => cases h : s.console <;> simp [step, stepWith, wrapVerboseBad, h]
  | _ => rfl

theorem step_nonCall_obs (s : LogState) (op : Op) (h : op.isCall = false) : (step s op).2 = none := by
  cases op with
  | call _ _ | callBad _ => cases h
  | _ => rfl

theorem traj_eq_scanl (s : LogState) (ops : List Op) : traj s ops = ops.scanl (fun s op => (step s op).1) s := by
  induction ops generalizing s with
  | nil => rfl
  | cons op ops ih => rw [traj, ih, List.scanl_cons]

theorem traj_getElem? (s : LogState) (ops : List Op) (i : Nat) :
    (traj s ops)[i]? = if i ≤ ops.length then some (run s (ops.take i)) else none := by
  rw [traj_eq_scanl, List.getElem?_scanl]; rfl

theorem traj_length (s : LogState) (ops : List Op) : (traj s ops).length = ops.length + 1 := by
  rw [traj_eq_scanl, List.length_scanl]

theorem traj_getLast (s : LogState) (ops : List Op) : (traj s ops).getLast? = some (run s ops) := by
  rw [traj_eq_scanl, List.getLast?_scanl]; rfl

theorem run_concat (s : LogState) (ops : List Op) (op : Op) : run s (ops ++ [op]) = (step (run s ops) op).1 := by
  rw [run, List.foldl_append]; rfl

theorem observe_length (s : LogState) (ops : List Op) : (observe s ops).length = ops.length := by
  induction ops generalizing s with
  | nil => rfl
  | cons op ops ih => simp [observe, ih]

end Logger
