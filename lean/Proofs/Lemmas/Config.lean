/-
  Lemmas about `EmdModel.Config`: ordered dictionaries, item access, nested key paths (`updPath` is the one shape of
  nested writes and deletes), the yaml-safe conversion, `get_config` as an equation (`getConfig_eq`).  In front of them,
  what the option model shares with this one: the instances by which concrete runs are decided, and the inversion
  rules for the steps of an `Except` do-block.
-/
import EmdModel.Config

/-! ### deciding concrete runs

`Except ε α` has no decidable equality when `α` (stage calls) has none, and the trees are a mutual type without a
`deriving` clause.  With the instances below the concrete runs of the configuration and option models
(`∃ a, run = .ok a ∧ …`, `run = .error …`) are checked by `decide +kernel`: the kernel runs the model once, where
`⟨_, rfl, rfl⟩` makes the elaborator run it as well, and again for every further conjunct. -/

deriving instance DecidableEq for Config.Tree, Config.TreeList, Config.Assoc
deriving instance DecidableEq for Except

/-- the entry in row `i` of a table: `rfl` evaluates the index, where `simp` would compare the entry with every row -/
theorem List.mem_row {α : Type _} {l : List α} (i : Nat) {a : α} (h : l[i]? = some a := by rfl) : a ∈ l :=
  List.mem_of_getElem? h

namespace Except
variable {ε α : Type _}

instance decExistsOk (e : Except ε α) (P : α → Prop) [DecidablePred P] : Decidable (∃ a, e = .ok a ∧ P a) :=
  match e with
  | .ok a => decidable_of_iff (P a) ⟨fun h => ⟨a, rfl, h⟩, fun ⟨_, h, hp⟩ => by cases h; exact hp⟩
  | .error _ => isFalse (fun ⟨_, h, _⟩ => by cases h)

instance decEqError [DecidableEq ε] (e : Except ε α) (k : ε) : Decidable (e = .error k) :=
  match e with
  | .ok _ => isFalse (by simp)
  | .error k' => decidable_of_iff (k' = k) (by simp)

variable {β : Type _}

theorem bind_eq_ok {x : Except ε α} {f : α → Except ε β} {b : β} :
    (x >>= f) = .ok b ↔ ∃ a, x = .ok a ∧ f a = .ok b := by
  cases x <;> simp [bind, Except.bind]

theorem ite_error_eq_ok {c : Prop} [Decidable c] {e : ε} {x : Except ε α} {b : α} :
    (if c then .error e else x) = .ok b ↔ ¬ c ∧ x = .ok b := by
  split <;> simp [*]

/-- Proved through `pure_bind`, not by `rfl`, so that `simp` rewrites with it and does not take the step for a
    definitional one: checking `(ok a >>= f) = (x >>= g)` by unfolding, the kernel first compares the arguments of the
    two `>>=`, and so evaluates the model call `x` that comes next (decoding its key strings), before it unfolds the
    bind. -/
theorem ok_bind (a : α) (f : α → Except ε β) : (Except.ok a >>= f) = f a := pure_bind a f

theorem pure_eq_ok {a b : α} : (pure a : Except ε α) = .ok b ↔ a = b := by
  simp [pure, Except.pure]

end Except

namespace Config

/-! ### ordered dictionaries -/

namespace Assoc

theorem lookup_cons_self (k : Key) (v : Tree) (r : Assoc) : (Assoc.cons k v r).lookup k = some v := by
  simp [lookup]

theorem lookup_cons_ne {k k' : Key} (h : k' ≠ k) (v : Tree) (r : Assoc) :
    (Assoc.cons k' v r).lookup k = r.lookup k := by
  simp [lookup, h]

theorem lookup_insert_same (k : Key) (v : Tree) : ∀ a : Assoc, (a.insert k v).lookup k = some v
  | .nil => by simp [insert, lookup]
  | .cons k' v' r => by
    by_cases h : k' = k <;> simp [insert, lookup, h, lookup_insert_same k v r]

theorem lookup_insert_other (k k' : Key) (v : Tree) (h : k' ≠ k) :
    ∀ a : Assoc, (a.insert k v).lookup k' = a.lookup k'
  | .nil => by simp [insert, lookup, h.symm]
  | .cons k₀ v₀ r => by
    by_cases h0 : k₀ = k
    · simp [insert, lookup, h0, h.symm]
    · simp only [insert, if_neg h0, lookup, lookup_insert_other k k' v h r]

theorem lookup_erase_same (k : Key) : ∀ a : Assoc, (a.erase k).lookup k = none
  | .nil => by simp [erase, lookup]
  | .cons k' v' r => by
    by_cases h : k' = k <;> simp [erase, lookup, h, lookup_erase_same k r]

theorem lookup_erase_other (k k' : Key) (h : k' ≠ k) :
    ∀ a : Assoc, (a.erase k).lookup k' = a.lookup k'
  | .nil => rfl
  | .cons k₀ v₀ r => by
    by_cases h0 : k₀ = k
    · simp [erase, lookup, h0, h.symm, lookup_erase_other k k' h r]
    · simp only [erase, if_neg h0, lookup, lookup_erase_other k k' h r]

theorem mem_keys_iff (p : Key) : ∀ a : Assoc, p ∈ a.keys ↔ (a.lookup p).isSome
  | .nil => by simp [keys, lookup]
  | .cons q v r => by
    by_cases h : q = p
    · simp [keys, lookup, h]
    · simp [keys, lookup, h, Ne.symm h, mem_keys_iff p r]

theorem contains_iff (a : Assoc) (p : Key) : a.contains p = true ↔ p ∈ a.keys := (mem_keys_iff p a).symm

theorem mem_keys_of_lookup {a : Assoc} {p : Key} {d : Tree} (h : a.lookup p = some d) : p ∈ a.keys :=
  (mem_keys_iff p a).2 (by simp [h])

theorem exists_lookup_of_mem_keys {a : Assoc} {p : Key} (h : p ∈ a.keys) : ∃ d, a.lookup p = some d :=
  Option.isSome_iff_exists.1 ((mem_keys_iff p a).1 h)

theorem lookup_eq_none {a : Assoc} {p : Key} : a.lookup p = none ↔ p ∉ a.keys := by
  rw [mem_keys_iff]; cases a.lookup p <;> simp

theorem lookup_append (p : Key) : ∀ a b : Assoc, (a.append b).lookup p = (a.lookup p).orElse (fun _ => b.lookup p)
  | .nil, b => by simp [append, lookup]
  | .cons q v r, b => by
    by_cases h : q = p <;> simp [append, lookup, h, lookup_append p r b]

theorem keys_append : ∀ a b : Assoc, (a.append b).keys = a.keys ++ b.keys
  | .nil, b => by simp [append, keys]
  | .cons q v r, b => by simp [append, keys, keys_append r b]

theorem append_nil : ∀ a : Assoc, a.append .nil = a
  | .nil => rfl
  | .cons q v r => by simp [append, append_nil r]

theorem mem_keys_insert (k : Key) (v : Tree) (q : Key) : ∀ a : Assoc, q ∈ (a.insert k v).keys ↔ q ∈ a.keys ∨ q = k
  | .nil => by simp [insert, keys]
  | .cons k' v' r => by
    by_cases h0 : k' = k
    · subst h0; simp only [insert, if_true, keys, List.mem_cons]; grind
    · simp only [insert, h0, if_false, keys, List.mem_cons, mem_keys_insert k v q r]; grind

theorem nodup_keys_insert (k : Key) (v : Tree) : ∀ a : Assoc, a.keys.Nodup → (a.insert k v).keys.Nodup
  | .nil, _ => by simp [insert, keys]
  | .cons k' v' r, h => by
    obtain ⟨h1, h2⟩ := List.nodup_cons.1 (by simpa [keys] using h)
    by_cases h0 : k' = k
    · simpa [insert, h0, keys] using h
    · rw [insert, if_neg h0, keys, List.nodup_cons, mem_keys_insert]
      exact ⟨fun hm => hm.elim h1 h0, nodup_keys_insert k v r h2⟩

theorem insert_insert_same (k : Key) (v w : Tree) : ∀ a : Assoc, (a.insert k v).insert k w = a.insert k w
  | .nil => by simp [insert]
  | .cons q x r => by
    by_cases h : q = k <;> simp [insert, h, insert_insert_same k v w r]

theorem insert_lookup_self (k : Key) (v : Tree) : ∀ a : Assoc, a.lookup k = some v → a.insert k v = a
  | .nil, h => by simp [lookup] at h
  | .cons q x r, h => by
    by_cases hq : q = k
    · simp [lookup, hq] at h
      simp [insert, hq, h]
    · simp [lookup, hq] at h
      simp [insert, hq, insert_lookup_self k v r h]

theorem keys_insert_of_mem (k : Key) (v : Tree) :
    ∀ a : Assoc, (a.lookup k).isSome → (a.insert k v).keys = a.keys
  | .nil, h => by simp [lookup] at h
  | .cons k' v' r, h => by
    by_cases h0 : k' = k
    · simp [insert, keys, h0]
    · simp [lookup, h0] at h
      simp [insert, keys, h0, keys_insert_of_mem k v r h]

theorem keys_erase (k : Key) : ∀ a : Assoc, (a.erase k).keys = a.keys.filter (· ≠ k)
  | .nil => by simp [erase, keys]
  | .cons k' v' r => by
    by_cases h0 : k' = k <;> simp [erase, keys, h0, keys_erase k r]

end Assoc

/-! ### item access -/

theorem getItem_ok_dict {t : Tree} {k : Key} {v : Tree} (h : getItem t k = .ok v) :
    ∃ a, t = .dict a ∧ a.lookup k = some v := by
  unfold getItem at h
  split at h
  · next a =>
    split at h
    · next v' hv => cases h; exact ⟨a, rfl, hv⟩
    · cases h
  · cases h
  · split at h <;> cases h
  · cases h

theorem setItem_ok_dict {t : Tree} {k : Key} {v t' : Tree} (h : setItem t k v = .ok t') :
    ∃ a, t = .dict a ∧ t' = .dict (a.insert k v) := by
  unfold setItem at h
  split at h
  · next a => cases h; exact ⟨a, rfl, rfl⟩
  · cases h
  · cases h

theorem delItem_ok_dict {t : Tree} {k : Key} {t' : Tree} (h : delItem t k = .ok t') :
    ∃ a, t = .dict a ∧ (a.lookup k).isSome ∧ t' = .dict (a.erase k) := by
  unfold delItem at h
  split at h
  · next a =>
    split at h
    · next hc => cases h; exact ⟨a, rfl, hc, rfl⟩
    · cases h
  · cases h
  · cases h

@[simp] theorem getItem_dict (a : Assoc) (k : Key) :
    getItem (.dict a) k = match a.lookup k with | some v => .ok v | none => .error .keyError := rfl

@[simp] theorem setItem_dict (a : Assoc) (k : Key) (v : Tree) :
    setItem (.dict a) k v = .ok (.dict (a.insert k v)) := rfl

@[simp] theorem delItem_dict (a : Assoc) (k : Key) :
    delItem (.dict a) k = if a.contains k then .ok (.dict (a.erase k)) else .error .keyError := rfl

theorem getItem_setItem_same {t t' : Tree} {k : Key} {v : Tree} (h : setItem t k v = .ok t') :
    getItem t' k = .ok v := by
  obtain ⟨a, rfl, rfl⟩ := setItem_ok_dict h
  simp [Assoc.lookup_insert_same]

theorem getItem_setItem_other {t t' : Tree} {k k' : Key} {v : Tree} (h : setItem t k v = .ok t')
    (hk : k' ≠ k) : getItem t' k' = getItem t k' := by
  obtain ⟨a, rfl, rfl⟩ := setItem_ok_dict h
  simp [Assoc.lookup_insert_other _ _ _ hk]

theorem getItem_delItem_same {t t' : Tree} {k : Key} (h : delItem t k = .ok t') :
    getItem t' k = .error .keyError := by
  obtain ⟨a, rfl, _, rfl⟩ := delItem_ok_dict h
  simp [Assoc.lookup_erase_same]

theorem getItem_delItem_other {t t' : Tree} {k k' : Key} (h : delItem t k = .ok t') (hk : k' ≠ k) :
    getItem t' k' = getItem t k' := by
  obtain ⟨a, rfl, _, rfl⟩ := delItem_ok_dict h
  simp [Assoc.lookup_erase_other _ _ hk]

/-! ### nested indexing -/

@[simp] theorem getPath_nil (t : Tree) : getPath t [] = .ok t := rfl

theorem getPath_cons (t : Tree) (k : Key) (ks : List Key) :
    getPath t (k :: ks) = (getItem t k >>= fun c => getPath c ks) := rfl

theorem getPath_single (t : Tree) (k : Key) : getPath t [k] = getItem t k := bind_pure _

theorem setPath_single (t : Tree) (k : Key) (v : Tree) : setPath t [k] v = setItem t k v := rfl

theorem setPath_cons2 (t : Tree) (k k' : Key) (ks : List Key) (v : Tree) :
    setPath t (k :: k' :: ks) v =
      (getItem t k >>= fun c => setPath c (k' :: ks) v >>= fun c' => setItem t k c') := rfl

theorem delPath_single (t : Tree) (k : Key) : delPath t [k] = delItem t k := rfl

theorem delPath_cons2 (t : Tree) (k k' : Key) (ks : List Key) :
    delPath t (k :: k' :: ks) =
      (getItem t k >>= fun c => delPath c (k' :: ks) >>= fun c' => setItem t k c') := rfl

def Unrelated (p q : List Key) : Prop := ¬ p <+: q ∧ ¬ q <+: p

theorem unrelated_cons_same {k : Key} {p q : List Key} (h : Unrelated (k :: p) (k :: q)) : Unrelated p q :=
  ⟨fun hp => h.1 ((List.prefix_cons_inj k).2 hp), fun hq => h.2 ((List.prefix_cons_inj k).2 hq)⟩

/-- the common shape of nested writes and deletes: `op` at the end of the path, the changed children stored back on
    the way up -/
def updPath (op : Tree → Key → Except Err Tree) : Tree → List Key → Except Err Tree
  | t, [] => .ok t
  | t, [k] => op t k
  | t, k :: k' :: ks => do
      let c ← getItem t k
      let c' ← updPath op c (k' :: ks)
      setItem t k c'

theorem setPath_eq_updPath (v : Tree) : ∀ (p : List Key) (t : Tree), p ≠ [] →
    setPath t p v = updPath (fun t k => setItem t k v) t p
  | [], _, h => absurd rfl h
  | [_], _, _ => rfl
  | k :: k' :: ks, t, _ => by
    simp only [setPath, updPath, setPath_eq_updPath v (k' :: ks) _ (by simp)]

theorem delPath_eq_updPath : ∀ (p : List Key) (t : Tree), delPath t p = updPath delItem t p
  | [], _ => rfl
  | [_], _ => rfl
  | k :: k' :: ks, t => by simp only [delPath, updPath, delPath_eq_updPath (k' :: ks)]

theorem getPath_updPath_same {op : Tree → Key → Except Err Tree} {r : Except Err Tree}
    (hop : ∀ {t t' k}, op t k = .ok t' → getItem t' k = r) : ∀ (p : List Key) (t t' : Tree), p ≠ [] →
    updPath op t p = .ok t' → getPath t' p = r
  | [], _, _, hp, _ => absurd rfl hp
  | [k], t, t', _, h => by rw [getPath_single, hop h]
  | k :: k' :: ks, t, t', _, h => by
    simp only [updPath, Except.bind_eq_ok] at h
    obtain ⟨c, _, c', h2, h3⟩ := h
    rw [getPath_cons, getItem_setItem_same h3]
    exact getPath_updPath_same hop (k' :: ks) c c' (by simp) h2

theorem getPath_updPath_other {op : Tree → Key → Except Err Tree}
    (hop : ∀ {t t' k k'}, op t k = .ok t' → k' ≠ k → getItem t' k' = getItem t k') : ∀ (p q : List Key) (t t' : Tree),
    updPath op t p = .ok t' → Unrelated p q → getPath t' q = getPath t q
  | [], q, _, _, _, hu => absurd (List.nil_prefix) hu.1
  | _ :: _, [], _, _, _, hu => absurd (List.nil_prefix) hu.2
  | [k], kq :: qs, t, t', h, hu => by
    have hne : kq ≠ k := fun e => hu.1 (e ▸ (List.prefix_cons_inj kq).2 List.nil_prefix)
    rw [getPath_cons, getPath_cons, hop h hne]
  | k :: k' :: ks, kq :: qs, t, t', h, hu => by
    simp only [updPath, Except.bind_eq_ok] at h
    obtain ⟨c, h1, c', h2, h3⟩ := h
    rw [getPath_cons, getPath_cons]
    by_cases hne : kq = k
    · subst hne
      rw [getItem_setItem_same h3, h1]
      exact getPath_updPath_other hop (k' :: ks) qs c c' h2 (unrelated_cons_same hu)
    · rw [getItem_setItem_other h3 hne]

theorem getPath_setPath_same : ∀ (p : List Key) (t t' v : Tree), setPath t p v = .ok t' → getPath t' p = .ok v
  | [], _, _, _, h => by cases h; rfl
  | k :: ks, t, t', v, h =>
    getPath_updPath_same (fun h => getItem_setItem_same h) _ t t' (by simp) (setPath_eq_updPath v (k :: ks) t (by simp) ▸ h)

theorem getPath_setPath_other (p q : List Key) (t t' v : Tree) (h : setPath t p v = .ok t') (hu : Unrelated p q) :
    getPath t' q = getPath t q :=
  getPath_updPath_other (fun h hk => getItem_setItem_other h hk) p q t t'
    (setPath_eq_updPath v p t (fun e => hu.1 (e ▸ List.nil_prefix)) ▸ h) hu

theorem getPath_delPath_same (p : List Key) (t t' : Tree) (hp : p ≠ []) (h : delPath t p = .ok t') :
    getPath t' p = .error .keyError :=
  getPath_updPath_same (fun h => getItem_delItem_same h) p t t' hp (delPath_eq_updPath p t ▸ h)

theorem getPath_delPath_other (p q : List Key) (t t' : Tree) (h : delPath t p = .ok t') (hu : Unrelated p q) :
    getPath t' q = getPath t q :=
  getPath_updPath_other (fun h hk => getItem_delItem_other h hk) p q t t' (delPath_eq_updPath p t ▸ h) hu

theorem updPath_snoc (op : Tree → Key → Except Err Tree) : ∀ (p : List Key) (t : Tree) (k : Key),
    updPath op t (p ++ [k]) = getPath t p >>= fun c => op c k >>= fun c' => setPath t p c'
  | [], t, k => (bind_pure (op t k)).symm
  | [k₀], t, k => by rw [getPath_single]; rfl
  | k₀ :: k₁ :: p, t, k => by
    have ih : ∀ c, updPath op c (k₁ :: (p ++ [k])) = _ := fun c => updPath_snoc op (k₁ :: p) c k
    simp only [List.cons_append, updPath, ih, getPath_cons t k₀, setPath_cons2, bind_assoc]
    -- the right-hand side reads `t[k₀]` a second time when it stores the parent back
    cases getItem t k₀ <;> rfl

theorem getPath_delPath_parent (p : List Key) (k : Key) (t t' : Tree) (h : delPath t (p ++ [k]) = .ok t') :
    ∃ a, getPath t p = .ok (.dict a) ∧ (a.lookup k).isSome ∧ getPath t' p = .ok (.dict (a.erase k)) := by
  simp only [delPath_eq_updPath, updPath_snoc, Except.bind_eq_ok] at h
  obtain ⟨c, h1, c', h2, h3⟩ := h
  obtain ⟨a, rfl, hc, rfl⟩ := delItem_ok_dict h2
  exact ⟨a, h1, hc, getPath_setPath_same p t t' _ h3⟩

theorem setPath_parent_error (p : List Key) (k : Key) (t v : Tree) (e : Err) (h : getPath t p = .error e) :
    setPath t (p ++ [k]) v = .error e := by
  rw [setPath_eq_updPath v _ t (by simp), updPath_snoc, h]; rfl

/-! ### key paths -/

theorem splitSlash_ne_nil (s : Key) : splitSlash s ≠ [] := by
  cases s with
  | nil => simp [splitSlash]
  | cons c cs =>
    unfold splitSlash
    split
    · simp
    · split <;> simp

theorem splitSlash_noSlash (s : Key) (h : '/' ∉ s) : splitSlash s = [s] := by
  induction s with
  | nil => rfl
  | cons c cs ih =>
    have hc : c ≠ '/' := fun e => h (by simp [e])
    have hcs : '/' ∉ cs := fun e => h (by simp [e])
    simp [splitSlash, hc, ih hcs]

theorem splitSlash_append (s rest : Key) (h : '/' ∉ s) :
    splitSlash (s ++ '/' :: rest) = s :: splitSlash rest := by
  induction s with
  | nil => simp [splitSlash]
  | cons c cs ih =>
    have hc : c ≠ '/' := fun e => h (by simp [e])
    have hcs : '/' ∉ cs := fun e => h (by simp [e])
    simp [splitSlash, hc, ih hcs]

theorem splitSlash_joinSlash : ∀ (segs : List Key), segs ≠ [] → (∀ s ∈ segs, '/' ∉ s) →
    splitSlash (joinSlash segs) = segs
  | [], h, _ => absurd rfl h
  | [s], _, hs => by simpa [joinSlash] using splitSlash_noSlash s (hs s (by simp))
  | s :: t :: r, _, hs => by
    have ih := splitSlash_joinSlash (t :: r) (by simp) (fun x hx => hs x (by simp [hx]))
    simp only [joinSlash]
    rw [splitSlash_append s _ (hs s (by simp)), ih]

theorem keyTransform_ok_shape {key : Key} {p : List Key} (h : keyTransform key = .ok p) :
    p ≠ [] ∧ p.length ≤ 3 := by
  unfold keyTransform at h
  simp only [] at h
  split at h
  · cases h
  · cases h
    exact ⟨splitSlash_ne_nil key, by omega⟩

/-- what follows `keyTransform` in a `do` block only ever runs on one, two or three levels: the fourth branch of
    `cfgGet`/`cfgSet`/`cfgDel` is dead -/
theorem keyTransform_bind_congr {α : Type} {f g : List Key → Except Err α} (key : Key) (h1 : ∀ a, f [a] = g [a])
    (h2 : ∀ a b, f [a, b] = g [a, b]) (h3 : ∀ a b c, f [a, b, c] = g [a, b, c]) :
    (keyTransform key >>= f) = (keyTransform key >>= g) := by
  cases h : keyTransform key with
  | error e => rfl
  | ok p =>
    obtain ⟨hne, hlen⟩ := keyTransform_ok_shape h
    match p, hne, hlen with
    | [a], _, _ => exact h1 a
    | [a, b], _, _ => exact h2 a b
    | [a, b, c], _, _ => exact h3 a b c
    | _ :: _ :: _ :: _ :: _, _, hl => simp at hl

theorem keyTransform_noSlash (p : Key) (h : '/' ∉ p) : keyTransform p = .ok [p] := by
  simp [keyTransform, splitSlash_noSlash p h]

theorem cfgSet_noSlash (store : Tree) (p : Key) (v : Tree) (h : '/' ∉ p) :
    cfgSet store p v = setItem store p v := by
  simp [cfgSet, keyTransform_noSlash p h, bind, Except.bind]

theorem cfgGet_noSlash (store : Tree) (p : Key) (h : '/' ∉ p) : cfgGet store p = getItem store p := by
  simp [cfgGet, keyTransform_noSlash p h, bind, Except.bind]

theorem keyTransform_two (stage p : Key) (hs : '/' ∉ stage) (hp : '/' ∉ p) :
    keyTransform (stage ++ '/' :: p) = .ok [stage, p] := by
  simp [keyTransform, splitSlash_append stage p hs, splitSlash_noSlash p hp]

theorem cfgSet_two {st cur : Assoc} {stage p : Key} (hs : '/' ∉ stage) (hp : '/' ∉ p)
    (hl : st.lookup stage = some (.dict cur)) (v : Tree) :
    cfgSet (.dict st) (stage ++ '/' :: p) v = .ok (.dict (st.insert stage (.dict (cur.insert p v)))) := by
  simp [cfgSet, keyTransform_two stage p hs hp, bind, Except.bind, hl]

theorem cfgGet_two {st cur : Assoc} {stage p : Key} (hs : '/' ∉ stage) (hp : '/' ∉ p)
    (hl : st.lookup stage = some (.dict cur)) : cfgGet (.dict st) (stage ++ '/' :: p) = getItem (.dict cur) p := by
  simp [cfgGet, keyTransform_two stage p hs hp, bind, Except.bind, hl]

/-! ### yaml-safe conversion -/

theorem Scalar.item_item (s : Scalar) : s.item.item = s.item := by cases s <;> rfl

theorem Scalar.isNp_item (s : Scalar) : s.item.isNp = false := by cases s <;> rfl

theorem Scalar.item_of_not_isNp : ∀ s : Scalar, s.isNp = false → s.item = s
  | .none, _ | .bool _, _ | .int _, _ | .num _, _ | .str _, _ => rfl
  | .npbool _, h | .npint _ _, h | .npnum _ _, h => by cases h

theorem arrToList_idem : ∀ t, arrToList (arrToList t) = arrToList t
  | .scalar _ | .seq .array _ | .seq .list _ | .seq .tuple _ | .dict _ => rfl

mutual
  theorem itemize_idem : ∀ t, itemize (itemize t) = itemize t
    | .scalar s => by simp [itemize, Scalar.item_item]
    | .seq .array xs => by simp [itemize]
    | .seq .list xs | .seq .tuple xs => by simp [itemize, itemizeL_idem xs]
    | .dict a => by simp [itemize, itemizeA_idem a]
  theorem itemizeL_idem : ∀ ts, itemizeL (itemizeL ts) = itemizeL ts
    | .nil => by simp [itemizeL]
    | .cons t ts => by simp [itemizeL, itemize_idem t, itemizeL_idem ts]
  theorem itemizeA_idem : ∀ a, itemizeA (itemizeA a) = itemizeA a
    | .nil => by simp [itemizeA]
    | .cons _ v r => by simp [itemizeA, itemize_idem v, itemizeA_idem r]
end

mutual
  theorem itemize_of_yamlSafe : ∀ t, yamlSafe t = true → itemize t = t
    | .scalar s, h => by
      simp only [yamlSafe, Bool.not_eq_true'] at h
      simp [itemize, Scalar.item_of_not_isNp s h]
    | .seq .array xs, _ => by simp [itemize]
    | .seq .list xs, h | .seq .tuple xs, h => by simp only [yamlSafe] at h; simp [itemize, itemizeL_of_yamlSafeL xs h]
    | .dict a, h => by simp only [yamlSafe] at h; simp [itemize, itemizeA_of_yamlSafeA a h]
  theorem itemizeL_of_yamlSafeL : ∀ ts, yamlSafeL ts = true → itemizeL ts = ts
    | .nil, _ => by simp [itemizeL]
    | .cons t ts, h => by
      simp only [yamlSafeL, Bool.and_eq_true] at h
      simp [itemizeL, itemize_of_yamlSafe t h.1, itemizeL_of_yamlSafeL ts h.2]
  theorem itemizeA_of_yamlSafeA : ∀ a, yamlSafeA a = true → itemizeA a = a
    | .nil, _ => by simp [itemizeA]
    | .cons _ v r, h => by
      simp only [yamlSafeA, Bool.and_eq_true] at h
      simp [itemizeA, itemize_of_yamlSafe v h.1, itemizeA_of_yamlSafeA r h.2]
end

mutual
  theorem yamlSafe_itemize : ∀ t, arrayFree t = true → yamlSafe (itemize t) = true
    | .scalar s, _ => by simp [itemize, yamlSafe, Scalar.isNp_item]
    | .seq .array xs, h => by simp [arrayFree] at h
    | .seq .list xs, h | .seq .tuple xs, h => by simp only [arrayFree] at h; simp [itemize, yamlSafe, yamlSafeL_itemizeL xs h]
    | .dict a, h => by simp only [arrayFree] at h; simp [itemize, yamlSafe, yamlSafeA_itemizeA a h]
  theorem yamlSafeL_itemizeL : ∀ ts, arrayFreeL ts = true → yamlSafeL (itemizeL ts) = true
    | .nil, _ => by simp [itemizeL, yamlSafeL]
    | .cons t ts, h => by
      simp only [arrayFreeL, Bool.and_eq_true] at h
      simp [itemizeL, yamlSafeL, yamlSafe_itemize t h.1, yamlSafeL_itemizeL ts h.2]
  theorem yamlSafeA_itemizeA : ∀ a, arrayFreeA a = true → yamlSafeA (itemizeA a) = true
    | .nil, _ => by simp [itemizeA, yamlSafeA]
    | .cons _ v r, h => by
      simp only [arrayFreeA, Bool.and_eq_true] at h
      simp [itemizeA, yamlSafeA, yamlSafe_itemize v h.1, yamlSafeA_itemizeA r h.2]
end

mutual
  theorem arrayFree_of_yamlSafe : ∀ t, yamlSafe t = true → arrayFree t = true
    | .scalar _, _ => by simp [arrayFree]
    | .seq .array xs, h => by simp [yamlSafe] at h
    | .seq .list xs, h | .seq .tuple xs, h => by simp only [yamlSafe] at h; simp [arrayFree, arrayFreeL_of_yamlSafeL xs h]
    | .dict a, h => by simp only [yamlSafe] at h; simp [arrayFree, arrayFreeA_of_yamlSafeA a h]
  theorem arrayFreeL_of_yamlSafeL : ∀ ts, yamlSafeL ts = true → arrayFreeL ts = true
    | .nil, _ => by simp [arrayFreeL]
    | .cons t ts, h => by
      simp only [yamlSafeL, Bool.and_eq_true] at h
      simp [arrayFreeL, arrayFree_of_yamlSafe t h.1, arrayFreeL_of_yamlSafeL ts h.2]
  theorem arrayFreeA_of_yamlSafeA : ∀ a, yamlSafeA a = true → arrayFreeA a = true
    | .nil, _ => by simp [arrayFreeA]
    | .cons _ v r, h => by
      simp only [yamlSafeA, Bool.and_eq_true] at h
      simp [arrayFreeA, arrayFree_of_yamlSafe v h.1, arrayFreeA_of_yamlSafeA r h.2]
end

mutual
  theorem yamlSafe_arrToList : ∀ t, pureArray t = true → yamlSafe (arrToList t) = true
    | .scalar s, h => by simpa [arrToList, yamlSafe, pureArray] using h
    | .seq .array xs, h => by
      simp only [pureArray] at h
      simp [arrToList, yamlSafe, yamlSafeL_arrToListL xs h]
    | .seq .list xs, h | .seq .tuple xs, h => by simp [pureArray] at h
    | .dict _, h => by simp [pureArray] at h
  theorem yamlSafeL_arrToListL : ∀ ts, pureArrayL ts = true → yamlSafeL (arrToListL ts) = true
    | .nil, _ => by simp [arrToListL, yamlSafeL]
    | .cons t ts, h => by
      simp only [pureArrayL, Bool.and_eq_true] at h
      simp [arrToListL, yamlSafeL, yamlSafe_arrToList t h.1, yamlSafeL_arrToListL ts h.2]
end

mutual
  theorem yamlSafe_toSafe : ∀ t, plain t = true → yamlSafe (toSafe t) = true
    | .scalar s, _ => by simp [toSafe, yamlSafe, Scalar.isNp_item]
    | .seq .array xs, h => by
      simp only [plain] at h
      simp [toSafe, yamlSafe, yamlSafeL_arrToListL xs h]
    | .seq .list xs, h | .seq .tuple xs, h => by simp only [plain] at h; simp [toSafe, yamlSafe, yamlSafeL_itemizeL xs h]
    | .dict a, h => by
      simp only [plain] at h
      simp [toSafe, yamlSafe, yamlSafeA_toSafeA a h]
  theorem yamlSafeA_toSafeA : ∀ a, plainA a = true → yamlSafeA (toSafeA a) = true
    | .nil, _ => by simp [toSafeA, yamlSafeA]
    | .cons _ v r, h => by
      simp only [plainA, Bool.and_eq_true] at h
      simp [toSafeA, yamlSafeA, yamlSafe_toSafe v h.1, yamlSafeA_toSafeA r h.2]
end

mutual
  theorem plain_of_yamlSafe : ∀ t, yamlSafe t = true → plain t = true
    | .scalar _, _ => by simp [plain]
    | .seq .array xs, h => by simp [yamlSafe] at h
    | .seq .list xs, h | .seq .tuple xs, h => by simp only [yamlSafe] at h; simp [plain, arrayFreeL_of_yamlSafeL xs h]
    | .dict a, h => by simp only [yamlSafe] at h; simp [plain, plainA_of_yamlSafeA a h]
  theorem plainA_of_yamlSafeA : ∀ a, yamlSafeA a = true → plainA a = true
    | .nil, _ => by simp [plainA]
    | .cons _ v r, h => by
      simp only [yamlSafeA, Bool.and_eq_true] at h
      simp [plainA, plain_of_yamlSafe v h.1, plainA_of_yamlSafeA r h.2]
end

/-- the documents `_get_yamlsafe_dict` builds lie in the domain of the codec law -/
theorem yamlSafe_docs {st : Tree} {a : Assoc} (hst : yamlSafe st = true) (hpl : plainA a = true) :
    yamlSafe (.seq .list (.cons (.dict (.cons siftTypeKey st .nil)) (.cons (.dict (toSafeA a)) .nil))) = true := by
  simp [yamlSafeL, yamlSafe, yamlSafeA, hst, yamlSafeA_toSafeA a hpl]

mutual
  /-- `plain` is needed: an object array holding a list of numpy scalars becomes a list that still holds them
      (`tolist()` does not enter it), and only a second conversion turns them into Python scalars -/
  theorem toSafe_idem : ∀ t, plain t = true → toSafe (toSafe t) = toSafe t
    | .scalar s, _ => by simp [toSafe, Scalar.item_item]
    | .seq .array xs, h => by
      simp only [plain] at h
      simp [toSafe, itemizeL_of_yamlSafeL _ (yamlSafeL_arrToListL xs h)]
    | .seq .list xs, _ | .seq .tuple xs, _ => by simp [toSafe, itemizeL_idem xs]
    | .dict a, h => by simp only [plain] at h; simp [toSafe, toSafeA_idem a h]
  theorem toSafeA_idem : ∀ a, plainA a = true → toSafeA (toSafeA a) = toSafeA a
    | .nil, _ => by simp [toSafeA]
    | .cons _ v r, h => by
      simp only [plainA, Bool.and_eq_true] at h
      simp [toSafeA, toSafe_idem v h.1, toSafeA_idem r h.2]
end

mutual
  theorem eraseKinds_arrToList : ∀ t, eraseKinds (arrToList t) = eraseKinds t
    | .scalar _ => by simp [arrToList]
    | .seq .array xs => by simp [arrToList, eraseKinds, eraseKindsL_arrToListL xs]
    | .seq .list xs | .seq .tuple xs => by simp [arrToList]
    | .dict _ => by simp [arrToList]
  theorem eraseKindsL_arrToListL : ∀ ts, eraseKindsL (arrToListL ts) = eraseKindsL ts
    | .nil => by simp [arrToListL]
    | .cons t ts => by simp [arrToListL, eraseKindsL, eraseKinds_arrToList t, eraseKindsL_arrToListL ts]
end

mutual
  theorem eraseKinds_itemize : ∀ t, eraseKinds (itemize t) = eraseKinds t
    | .scalar s => by simp [itemize, eraseKinds, Scalar.item_item]
    | .seq .array xs => by simp [itemize]
    | .seq .list xs | .seq .tuple xs => by simp [itemize, eraseKinds, eraseKindsL_itemizeL xs]
    | .dict a => by simp [itemize, eraseKinds, eraseKindsA_itemizeA a]
  theorem eraseKindsL_itemizeL : ∀ ts, eraseKindsL (itemizeL ts) = eraseKindsL ts
    | .nil => by simp [itemizeL]
    | .cons t ts => by simp [itemizeL, eraseKindsL, eraseKinds_itemize t, eraseKindsL_itemizeL ts]
  theorem eraseKindsA_itemizeA : ∀ a, eraseKindsA (itemizeA a) = eraseKindsA a
    | .nil => by simp [itemizeA]
    | .cons _ v r => by simp [itemizeA, eraseKindsA, eraseKinds_itemize v, eraseKindsA_itemizeA r]
end

mutual
  theorem eraseKinds_toSafe : ∀ t, eraseKinds (toSafe t) = eraseKinds t
    | .scalar s => by simp [toSafe, eraseKinds, Scalar.item_item]
    | .seq .array xs => by simp [toSafe, eraseKinds, eraseKindsL_arrToListL xs]
    | .seq .list xs | .seq .tuple xs => by simp [toSafe, eraseKinds, eraseKindsL_itemizeL xs]
    | .dict a => by simp [toSafe, eraseKinds, eraseKindsA_toSafeA a]
  theorem eraseKindsA_toSafeA : ∀ a, eraseKindsA (toSafeA a) = eraseKindsA a
    | .nil => by simp [toSafeA]
    | .cons _ v r => by simp [toSafeA, eraseKindsA, eraseKinds_toSafe v, eraseKindsA_toSafeA r]
end

theorem lookup_toSafeA (key : Key) : ∀ a : Assoc, (toSafeA a).lookup key = (a.lookup key).map toSafe
  | .nil => rfl
  | .cons k' v r => by
    by_cases hk : k' = key <;> simp [toSafeA, Assoc.lookup, hk, lookup_toSafeA key r]

theorem strOkA_toSafeA : ∀ a, strOkA (toSafeA a) = strOkA a
  | .nil => by simp [toSafeA]
  | .cons key v r => by
    -- the conversion keeps a dictionary a dictionary and makes nothing else one
    cases v with
    | seq kd xs => cases kd <;> simp [toSafeA, toSafe, strOkA, strOkA_toSafeA r]
    | _ => simp [toSafeA, toSafe, strOkA, strOkA_toSafeA r]

/-! ### `get_config` -/

/-- `for p, d in opts: store[p] = d` on a plain dict -/
def assignA : Assoc → Assoc → Assoc
  | s, .nil => s
  | s, .cons p d r => assignA (s.insert p d) r

theorem assignAll_dict : ∀ (a s : Assoc), (∀ p ∈ a.keys, '/' ∉ p) →
    assignAll (.dict s) a = .ok (.dict (assignA s a))
  | .nil, s, _ => rfl
  | .cons p d r, s, h => by
    have hp : '/' ∉ p := h p (by simp [Assoc.keys])
    have ih := assignAll_dict r (s.insert p d) (fun q hq => h q (by simp [Assoc.keys, hq]))
    simp [assignAll, cfgSet_noSlash _ p d hp, bind, Except.bind, ih, assignA]

def NodupKeys (a : Assoc) : Prop := a.keys.Nodup

theorem lookup_assignA : ∀ (a s : Assoc) (q : Key), NodupKeys a →
    (assignA s a).lookup q = (a.lookup q).orElse fun _ => s.lookup q
  | .nil, s, q, _ => by simp [assignA, Assoc.lookup]
  | .cons p d r, s, q, h => by
    have hnd : p ∉ r.keys ∧ NodupKeys r := by simpa [NodupKeys, Assoc.keys] using h
    have ih := lookup_assignA r (s.insert p d) q hnd.2
    rw [assignA, ih]
    by_cases hpq : p = q
    · subst hpq
      simp [Assoc.lookup, Assoc.lookup_eq_none.2 hnd.1, Assoc.lookup_insert_same]
    · have : q ≠ p := fun e => hpq e.symm
      simp [Assoc.lookup, hpq, Assoc.lookup_insert_other _ _ _ this]

theorem lookup_assignA_of_none : ∀ {a s : Assoc} {q : Key}, a.lookup q = none → (assignA s a).lookup q = s.lookup q
  | .nil, _, _, _ => rfl
  | .cons p d r, s, q, h => by
    by_cases hp : p = q
    · simp [Assoc.lookup, hp] at h
    · simp only [Assoc.lookup, hp, if_false] at h
      rw [assignA, lookup_assignA_of_none h, Assoc.lookup_insert_other _ _ _ (Ne.symm hp)]

theorem lookup_functionOpts : ∀ (a : Assoc) (ign : List Key) (q : Key),
    (functionOpts ign a).lookup q = if q ∈ ign then none else a.lookup q
  | .nil, ign, q => by simp [functionOpts, Assoc.lookup]
  | .cons p d r, ign, q => by
    by_cases hp : p ∈ ign
    · have ih := lookup_functionOpts r ign q
      simp only [functionOpts, hp, if_true, ih]
      by_cases hq : q ∈ ign
      · simp [hq]
      · have : ¬ p = q := fun e => hq (e ▸ hp)
        simp [hq, Assoc.lookup, this]
    · have ih := lookup_functionOpts r (p :: ign) q
      simp only [functionOpts, hp, if_false, Assoc.lookup, ih]
      by_cases hpq : p = q
      · subst hpq; simp [hp]
      · have : ¬ q = p := fun e => hpq e.symm
        simp [hpq, this]

theorem keys_functionOpts_sub (a : Assoc) (ign : List Key) (q : Key) (h : q ∈ (functionOpts ign a).keys) :
    q ∈ a.keys ∧ q ∉ ign := by
  rw [Assoc.mem_keys_iff, lookup_functionOpts] at h
  by_cases hq : q ∈ ign
  · simp [hq] at h
  · exact ⟨(Assoc.mem_keys_iff q a).2 (by simpa [hq] using h), hq⟩

theorem nodup_functionOpts : ∀ (a : Assoc) (ign : List Key), NodupKeys (functionOpts ign a)
  | .nil, _ => by simp [functionOpts, NodupKeys, Assoc.keys]
  | .cons p d r, ign => by
    by_cases hp : p ∈ ign
    · simpa [functionOpts, hp] using nodup_functionOpts r ign
    · have ih := nodup_functionOpts r (p :: ign)
      have hnot : p ∉ (functionOpts (p :: ign) r).keys := fun h =>
        (keys_functionOpts_sub r (p :: ign) p h).2 (by simp)
      simp only [functionOpts, hp, if_false, NodupKeys, Assoc.keys, List.nodup_cons]
      exact ⟨hnot, ih⟩

theorem ne_of_nodup_pair {a b : Key} (h : [a, b].Nodup) : a ≠ b := by simpa using h

theorem ne_of_nodup_triple {a b c : Key} (h : [a, b, c].Nodup) : a ≠ b ∧ a ≠ c ∧ b ≠ c := by
  simpa [and_assoc] using h

/-- the key constants `get_config` writes: slash-free, distinct, and the two pad keys split into their levels.  One
    conjunction, because the kernel decodes a key literal afresh in every declaration that mentions it. -/
theorem configKeys :
    '/' ∉ k "imf_opts" ∧ '/' ∉ k "envelope_opts" ∧ '/' ∉ k "extrema_opts" ∧ '/' ∉ k "mag_pad_opts" ∧ '/' ∉ k "loc_pad_opts" ∧
    k "extrema_opts/mag_pad_opts" = k "extrema_opts" ++ '/' :: k "mag_pad_opts" ∧
    k "extrema_opts/loc_pad_opts" = k "extrema_opts" ++ '/' :: k "loc_pad_opts" ∧
    [k "imf_opts", k "envelope_opts", k "extrema_opts"].Nodup ∧ k "mag_pad_opts" ≠ k "loc_pad_opts" := by
  decide +kernel

/-- the store `get_config` builds from the four signatures -/
def defaultStore (S : Sigs) (sig : Assoc) : Assoc :=
  (((assignA .nil (functionOpts variantIgnore sig)).insert (k "imf_opts") (.dict (functionOpts gniIgnore S.gni))).insert
    (k "envelope_opts") (.dict (functionOpts ieIgnore S.ie))).insert (k "extrema_opts")
      (.dict (((functionOpts gpeIgnore S.gpe).insert (k "mag_pad_opts") magPadOpts).insert (k "loc_pad_opts") locPadOpts))

theorem getConfig_eq {S : Sigs} {name : Key} {sig : Assoc} (hn : name ∈ siftTypes) (hv : S.variant name = some sig)
    (hsf : ∀ p ∈ sig.keys, '/' ∉ p) :
    getConfig S name = .ok ⟨.scalar (.str name), .dict (defaultStore S sig)⟩ := by
  obtain ⟨s1, s2, s3, s4, s5, e4, e5, _⟩ := configKeys
  have hkeys : ∀ p ∈ (functionOpts variantIgnore sig).keys, '/' ∉ p :=
    fun p hp => hsf p (keys_functionOpts_sub sig variantIgnore p hp).1
  simp only [getConfig, hn, if_true, hv, assignAll_dict _ _ hkeys, Except.ok_bind, cfgSet_noSlash _ _ _ s1,
    cfgSet_noSlash _ _ _ s2, cfgSet_noSlash _ _ _ s3, setItem_dict, e4, e5,
    cfgSet_two s3 s4 (Assoc.lookup_insert_same _ _ _), cfgSet_two s3 s5 (Assoc.lookup_insert_same _ _ _),
    Assoc.insert_insert_same, pure, Except.pure, defaultStore]

theorem lookup_defaultStore (S : Sigs) (sig : Assoc) :
    (defaultStore S sig).lookup (k "imf_opts") = some (.dict (functionOpts gniIgnore S.gni)) ∧
    (defaultStore S sig).lookup (k "envelope_opts") = some (.dict (functionOpts ieIgnore S.ie)) ∧
    (defaultStore S sig).lookup (k "extrema_opts") = some (.dict
      (((functionOpts gpeIgnore S.gpe).insert (k "mag_pad_opts") magPadOpts).insert (k "loc_pad_opts") locPadOpts)) := by
  obtain ⟨n12, n13, n23⟩ := ne_of_nodup_triple configKeys.2.2.2.2.2.2.2.1
  unfold defaultStore
  exact ⟨by rw [Assoc.lookup_insert_other _ _ _ n13, Assoc.lookup_insert_other _ _ _ n12, Assoc.lookup_insert_same],
    by rw [Assoc.lookup_insert_other _ _ _ n23, Assoc.lookup_insert_same], Assoc.lookup_insert_same _ _ _⟩

theorem lookup_defaultStore_top (S : Sigs) (sig : Assoc) {p : Key} (h1 : p ≠ k "imf_opts") (h2 : p ≠ k "envelope_opts")
    (h3 : p ≠ k "extrema_opts") :
    (defaultStore S sig).lookup p = if p ∈ variantIgnore then none else sig.lookup p := by
  rw [defaultStore, Assoc.lookup_insert_other _ _ _ h3, Assoc.lookup_insert_other _ _ _ h2,
    Assoc.lookup_insert_other _ _ _ h1, lookup_assignA _ _ _ (nodup_functionOpts sig variantIgnore), lookup_functionOpts,
    Option.orElse_eq_or]
  exact Option.or_none

end Config
