/- The part of the signal algebra that rests on the ordered field's absolute value: the model's own `Rat.abs'` is `|·|`,
   and what that gives for `Sig.absSum` under scalar multiples.  (`Sig.lean` itself is core Lean only.) -/
import Proofs.Lemmas.Sig
import Mathlib.Algebra.Order.Field.Rat
import Mathlib.Algebra.Order.Field.Basic

namespace Sig

theorem abs'_eq_abs (v : Rat) : Rat.abs' v = |v| := by
  unfold Rat.abs'
  split
  · rw [abs_of_neg ‹_›]
  · rw [abs_of_nonneg (not_lt.mp ‹_›)]

theorem abs'_mul (c v : Rat) : Rat.abs' (c * v) = Rat.abs' c * Rat.abs' v := by simp only [abs'_eq_abs, abs_mul]

theorem abs'_pos_of_ne (c : Rat) (hc : c ≠ 0) : 0 < Rat.abs' c := by rw [abs'_eq_abs]; exact abs_pos.mpr hc

theorem abs'_of_pos (c : Rat) (hc : 0 < c) : Rat.abs' c = c := by rw [abs'_eq_abs, abs_of_pos hc]

theorem abs'_of_neg (c : Rat) (hc : c < 0) : Rat.abs' c = -c := by rw [abs'_eq_abs, abs_of_neg hc]

theorem abs'_sub_comm (a b : Rat) : Rat.abs' (a - b) = Rat.abs' (b - a) := by simp only [abs'_eq_abs, abs_sub_comm]

theorem map_abs_smul (c : Rat) (x : Sig) : (smul c x).map Rat.abs' = smul (Rat.abs' c) (x.map Rat.abs') := by
  simp [smul, List.map_map, Function.comp_def, abs'_mul]

theorem absSum_smul (c : Rat) (v : Sig) : absSum (smul c v) = Rat.abs' c * absSum v := by
  show sum ((smul c v).map Rat.abs') = Rat.abs' c * sum (v.map Rat.abs')
  rw [map_abs_smul, sum_smul]

theorem absSum_lt_smul (c : Rat) (hc : c ≠ 0) (v : Sig) (thr : Rat) :
    absSum (smul c v) < Rat.abs' c * thr ↔ absSum v < thr := by
  rw [absSum_smul, Rat.mul_lt_mul_left (abs'_pos_of_ne c hc)]

end Sig
