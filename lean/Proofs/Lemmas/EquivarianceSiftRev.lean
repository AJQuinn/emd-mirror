/- Time reversal through the sift model: the stop rules, `loop`, `getNextImfIx` and `peelLoop` for every envelope and energy
   oracle meeting `EnvRev` / `EnergyRev`, and the unrefined Extrema-model envelopes (`extEnv`) as such an envelope oracle
   (`extEnv_reverse`; the length contract `EnvLen` holds with refinement too, `extEnv_len`). -/
import Proofs.Lemmas.EquivarianceSift
import Proofs.Lemmas.EquivarianceReverse

namespace Sift
open Sig (sub_reverse mean2_reverse smul_reverse sumSq_reverse absSum_reverse vsum_reverse)

/-! ### the stopping rules do not see the direction of time -/

theorem sdStop_reverse (thr : Rat) (h x1 : Sig) (hl : h.length = x1.length) :
    sdStop thr h.reverse x1.reverse = sdStop thr h x1 := by
  unfold sdStop
  rw [sub_reverse h x1 hl, sumSq_reverse, sumSq_reverse]

theorem rillingBig_reverse (sd : Rat) (U L : Sig) (hl : U.length = L.length) :
    rillingBig sd U.reverse L.reverse = (rillingBig sd U L).reverse := by
  unfold rillingBig; exact (List.reverse_zipWith hl).symm

theorem rillingStop_reverse (a b t : Rat) (U L : Sig) (hl : U.length = L.length) :
    rillingStop a b t U.reverse L.reverse = rillingStop a b t U L := by
  unfold rillingStop
  simp only [rillingBig_reverse _ U L hl, List.length_reverse, List.count_reverse, List.any_reverse]

theorem stopTest_reverse (r : StopRule) (k m : Nat) (h x1 U L : Sig) (h1 : h.length = x1.length) (h2 : U.length = L.length) :
    stopTest r k m h.reverse x1.reverse U.reverse L.reverse = stopTest r k m h x1 U L := by
  cases r with
  | sd thr => exact sdStop_reverse thr h x1 h1
  | rilling a b t => exact rillingStop_reverse a b t U L h2
  | fixed => rfl

/-! ### vocabulary -/

/-- `E'` is to the reversed signal what `E` is to the signal: both envelopes reversed -/
def EnvRev (E E' : Nat → Sig → Env) : Prop :=
  ∀ k h, E' k h.reverse = ((E k h).1.map List.reverse, (E k h).2.map List.reverse)

/-- the energy difference does not see the direction of time -/
def EnergyRev (D D' : Sig → Sig → Rat) : Prop := ∀ a b, D' a.reverse b.reverse = D a b

def Outcome.rev : Outcome → Outcome
  | .stopped k v => .stopped k v.reverse
  | .noExtrema k h => .noExtrema k h.reverse
  | .noConverge => .noConverge

def ImfResult.rev : ImfResult → ImfResult
  | .imf v f => .imf v.reverse f
  | .convergeError => .convergeError

variable {E E' : Nat → Sig → Env} {D D' : Sig → Sig → Rat} {o : ImfOpts}

theorem loop_reverse (hE : EnvRev E E') (hLen : EnvLen E) :
    ∀ (fuel k : Nat) (h : Sig), loop E' o fuel k h.reverse = (loop E o fuel k h).rev := by
  intro fuel
  induction fuel with
  | zero => intro k h; rfl
  | succ fuel ih =>
    intro k h
    unfold loop
    rw [hE k h]
    rcases hEk : E k h with ⟨_ | U, _ | L⟩
    · simp [Outcome.rev]
    · simp [Outcome.rev]
    · simp [Outcome.rev]
    · obtain ⟨hU, hL⟩ := hLen k h U L hEk
      have hUL : U.length = L.length := by rw [hU, hL]
      have hm : (Sig.mean2 U L).length = h.length := by simp [hU, hL]
      have hsm : (Sig.smul o.step (Sig.mean2 U L)).length = h.length := by simp [hU, hL]
      have hst := stopTest_reverse o.stop (k + 1) o.maxIters h (Sig.sub h (Sig.mean2 U L)) U L (by simp [hU, hL]) hUL
      simp only [Option.map_some, mean2_reverse U L hUL, sub_reverse h _ hm.symm, hst, smul_reverse,
        sub_reverse h _ hsm.symm, ih]
      split <;> simp [Outcome.rev]

theorem getNextImfIx_reverse (hE : EnvRev E E') (hLen : EnvLen E) (hD : EnergyRev D D') (x : Sig) :
    getNextImfIx E' D' o x.reverse = (getNextImfIx E D o x).rev := by
  have hflag : ∀ v f b, getNextImfIx E D o x = .imf v b →
      energyFlag D' o x.reverse v.reverse f = energyFlag D o x v f := fun v f b hv =>
    energyFlag_congr (by rw [sub_reverse x v (imf_length hLen hv).symm, hD x (Sig.sub x v)]) f
  unfold getNextImfIx run at hflag ⊢
  rw [loop_reverse hE hLen]
  cases hloop : loop E o (budget o) 0 x with
  | stopped k v => simp only [Outcome.rev, finish, ImfResult.rev, hflag v _ _ (by rw [hloop]; rfl)]
  | noExtrema k h => simp only [Outcome.rev, finish, ImfResult.rev, hflag h _ _ (by rw [hloop]; rfl)]
  | noConverge => rfl

theorem extractorIx_reverse (hE : EnvRev E E') (hLen : EnvLen E) (hD : EnergyRev D D') (p : Sig) :
    extractorIx E' D' o p.reverse = (extractorIx E D o p).map fun r => (r.1.reverse, r.2) := by
  unfold extractorIx
  rw [getNextImfIx_reverse hE hLen hD p]
  cases getNextImfIx E D o p <;> rfl

/-! ### the outer loop -/

/-- on signals of length `n` the extraction of the reversed residual (given the reversed columns) is the
    reversed extraction -/
def PeelRev (n : Nat) (X X' : List Sig → Sig → Option (Sig × Bool)) : Prop :=
  ∀ cols p, p.length = n → X' (cols.map List.reverse) p.reverse = (X cols p).map fun r => (r.1.reverse, r.2)

def PeelLen (n : Nat) (X : List Sig → Sig → Option (Sig × Bool)) : Prop :=
  ∀ cols p v f, p.length = n → X cols p = some (v, f) → v.length = n

theorem peelLoop_reverse (X X' : List Sig → Sig → Option (Sig × Bool)) (x : Sig) (hX : PeelRev x.length X X')
    (hLen : PeelLen x.length X) (thr : Rat) (cap : Option Nat) :
    ∀ (fuel : Nat) (cols : List Sig) (proto : Sig), proto.length = x.length → (∀ v ∈ cols, v.length = x.length) →
      peelLoop X' thr cap x.reverse fuel (cols.map List.reverse) proto.reverse
        = ((peelLoop X thr cap x fuel cols proto).1.map List.reverse, (peelLoop X thr cap x fuel cols proto).2) := by
  intro fuel
  induction fuel with
  | zero => intro cols proto _ _; rfl
  | succ fuel ih =>
    intro cols proto hp hcols
    unfold peelLoop
    rw [hX cols proto hp]
    cases hXc : X cols proto with
    | none => rfl
    | some r =>
      obtain ⟨v, cont⟩ := r
      have hv : v.length = x.length := hLen cols proto v cont hp hXc
      have hcols' : ∀ w ∈ cols ++ [v], w.length = x.length := by
        intro w hw
        rcases List.mem_append.mp hw with h | h
        · exact hcols w h
        · rw [List.mem_singleton.mp h]; exact hv
      have happ : cols.map List.reverse ++ [v.reverse] = (cols ++ [v]).map List.reverse := by simp
      have hvs : (Sig.vsum x.length (cols ++ [v])).length = x.length := Sig.length_vsum x.length _ hcols'
      simp only [Option.map_some, absSum_reverse, happ, List.length_map, List.length_reverse,
        vsum_reverse x.length _ hcols', sub_reverse x _ hvs.symm]
      split
      · exact ih _ _ (by simp [hvs]) hcols'
      · rfl

/-! ### the Extrema-model envelopes: reversal, lengths -/

theorem toOpt_mirror (n : Nat) (r : Extrema.EnvResult) :
    EnvResult.toOpt (Extrema.EnvResult.mirror n r) = (EnvResult.toOpt r).map List.reverse := by
  cases r <;> rfl

theorem extEnv_reverse (I : Extrema.Interp) (hI : I.Reversible) (w : Nat) (hw : 1 ≤ w) :
    EnvRev (fun _ => extEnv I w false) (fun _ => extEnv I w false) := by
  intro _ h
  simp only [extEnv, Extrema.interpEnvelope_reverse' I hI _ hw, toOpt_mirror]

end Sift
