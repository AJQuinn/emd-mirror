/- The algebra of `Sig` (lists of rationals under `zipWith` / `map`): lengths, zero, scalar multiples,
   negation, sums, cancellation, column sums, time reversal, samples.  Core Lean only. -/
import EmdModel.Basic

namespace Sig

/-! ### lengths -/
@[simp] theorem length_add (a b : Sig) : (add a b).length = min a.length b.length := by simp [add]
@[simp] theorem length_sub (a b : Sig) : (sub a b).length = min a.length b.length := by simp [sub]
@[simp] theorem length_mean2 (a b : Sig) : (mean2 a b).length = min a.length b.length := by simp [mean2]
@[simp] theorem length_smul (c : Rat) (a : Sig) : (smul c a).length = a.length := by simp [smul]
@[simp] theorem length_neg (a : Sig) : (neg a).length = a.length := by simp [neg]
@[simp] theorem length_zeros (n : Nat) : (zeros n).length = n := by simp [zeros]

theorem length_getD_zeros {n : Nat} {m : List Sig} (h : ∀ c ∈ m, c.length = n) (j : Nat) :
    ((m[j]?).getD (zeros n)).length = n := by
  cases hj : m[j]? with
  | none => exact length_zeros n
  | some c => exact h c (List.mem_of_getElem? hj)

/-! ### two facts about `zipWith` from which the identities below follow -/

theorem zipWith_replicate_right {α β : Type} (f : α → β → α) (b : β) (h : ∀ a, f a b = a) (x : List α) :
    List.zipWith f x (List.replicate x.length b) = x := by
  induction x with
  | nil => rfl
  | cons a t ih => simp [List.replicate_succ, h, ih]

theorem zipWith_left_cancel {α β γ : Type} (f : α → β → γ) (hf : ∀ a b b', f a b = f a b' → b = b') :
    ∀ (x : List α) (a b : List β), a.length = x.length → b.length = x.length →
      List.zipWith f x a = List.zipWith f x b → a = b
  | [], [], [], _, _, _ => rfl
  | u :: x, v :: a, w :: b, ha, hb, h => by
    simp only [List.zipWith_cons_cons, List.cons.injEq] at h
    rw [hf u v w h.1, zipWith_left_cancel f hf x a b (by simpa using ha) (by simpa using hb) h.2]

/-! ### zero -/
theorem add_zeros (x : Sig) : add x (zeros x.length) = x := zipWith_replicate_right _ 0 Rat.add_zero x
theorem sub_zeros (x : Sig) : sub x (zeros x.length) = x := zipWith_replicate_right _ 0 (fun a => by grind) x

theorem sub_self (a : Sig) : sub a a = zeros a.length := by
  have : ∀ v : Rat, v - v = 0 := fun v => by grind
  simp [sub, zeros, List.zipWith_self, this, List.map_const']

theorem zero_smul (u : Sig) : smul 0 u = zeros u.length := by
  simp [smul, zeros, Rat.zero_mul, List.map_const']

theorem smul_zeros (c : Rat) (n : Nat) : smul c (zeros n) = zeros n := by simp [smul, zeros]

/-! ### scalar multiples -/
theorem smul_smul (c d : Rat) (a : Sig) : smul c (smul d a) = smul (c * d) a := by
  simp [smul, Rat.mul_assoc]

theorem smul_add (c : Rat) (a b : Sig) : add (smul c a) (smul c b) = smul c (add a b) := by
  simp [add, smul, List.zipWith_map, List.map_zipWith, Rat.mul_add]

theorem smul_sub (c : Rat) (a b : Sig) : sub (smul c a) (smul c b) = smul c (sub a b) := by
  have : ∀ u v : Rat, c * u - c * v = c * (u - v) := fun u v => by grind
  simp [sub, smul, List.zipWith_map, List.map_zipWith, this]

theorem smul_injective (c : Rat) (hc : c ≠ 0) : Function.Injective (smul c) := fun a b h =>
  (List.map_inj_right fun u v (huv : c * u = c * v) => by
    rcases Rat.mul_eq_zero.mp (show c * (u - v) = 0 by grind) with h0 | h0
    · exact absurd h0 hc
    · grind).mp h

theorem smul_mean2 (c : Rat) (a b : Sig) : mean2 (smul c a) (smul c b) = smul c (mean2 a b) := by
  have : ∀ u v : Rat, (c * u + c * v) / 2 = c * ((u + v) / 2) := fun u v => by grind
  simp [mean2, smul, List.zipWith_map, List.map_zipWith, this]

theorem map_div_smul (c d : Rat) (a : Sig) : (smul c a).map (· / d) = smul c (a.map (· / d)) := by
  simp only [smul, List.map_map]
  exact List.map_congr_left fun v _ => by simp only [Function.comp, Rat.div_def, Rat.mul_assoc]

/-! ### negation -/
theorem neg_neg (x : Sig) : neg (neg x) = x := by simp [neg, Function.comp_def, Rat.neg_neg]

theorem smul_neg_eq (c : Rat) (x : Sig) : smul c x = smul (-c) (neg x) := by
  simp [smul, neg, Rat.neg_mul, Rat.mul_neg, Rat.neg_neg]

theorem neg_smul_eq (c : Rat) (x : Sig) : neg (smul c x) = smul (-c) x := by simp [smul, neg, Rat.neg_mul]

theorem neg_smul_comm (c : Rat) (x : Sig) : neg (smul c x) = smul c (neg x) := by simp [smul, neg, Rat.mul_neg]

/-! ### commutativity, associativity -/
theorem add_comm (a b : Sig) : add a b = add b a := by
  rw [add, List.zipWith_comm]
  congr 1; funext x y; exact Rat.add_comm y x

theorem mean2_comm (a b : Sig) : mean2 a b = mean2 b a := by
  rw [mean2, List.zipWith_comm]
  congr 1; funext x y; rw [Rat.add_comm]

theorem add_assoc : ∀ (a b c : Sig), add (add a b) c = add a (add b c)
  | [], _, _ => by simp [add]
  | _ :: _, [], _ => by simp [add]
  | _ :: _, _ :: _, [] => by simp [add]
  | x :: a, y :: b, z :: c => by
    have := add_assoc a b c
    simp only [add, List.zipWith_cons_cons, List.cons.injEq] at this ⊢
    exact ⟨Rat.add_assoc x y z, this⟩

/-! ### sums -/
theorem sum_smul (c : Rat) (v : Sig) : sum (smul c v) = c * sum v := by
  induction v with
  | nil => simp [sum, smul, Rat.mul_zero]
  | cons a t ih =>
    simp only [sum, smul, List.map_cons, List.foldr_cons] at ih ⊢
    rw [ih, Rat.mul_add]

theorem sumSq_smul (c : Rat) (v : Sig) : sumSq (smul c v) = (c * c) * sumSq v := by
  have : ∀ x : Rat, c * x * (c * x) = c * c * (x * x) := fun x => by grind
  rw [sumSq, sumSq, ← sum_smul]
  simp [smul, Function.comp_def, this]

/-! ### cancellation -/
theorem add_left_cancel (x a b : Sig) (ha : a.length = x.length) (hb : b.length = x.length)
    (h : add x a = add x b) : a = b :=
  zipWith_left_cancel _ (fun u v w h => by grind) x a b ha hb h

theorem sub_left_cancel (x a b : Sig) (ha : a.length = x.length) (hb : b.length = x.length)
    (h : sub x a = sub x b) : a = b :=
  zipWith_left_cancel _ (fun u v w h => by grind) x a b ha hb h

theorem add_sub_cancel (a x : Sig) (h : a.length = x.length) : add a (sub x a) = x := by
  induction a generalizing x with
  | nil => cases x with
    | nil => rfl
    | cons _ _ => simp at h
  | cons p a ih => cases x with
    | nil => simp at h
    | cons q x =>
      have := ih x (by simpa using h)
      simp only [add, sub, List.zipWith_cons_cons] at this ⊢
      grind

/-! ### column sums -/
theorem vsum_append (n : Nat) (cols : List Sig) (c : Sig) : vsum n (cols ++ [c]) = add (vsum n cols) c := by
  simp [vsum, List.foldl_append]

theorem length_foldl_add (n : Nat) (cols : List Sig) (hc : ∀ c ∈ cols, c.length = n) (acc : Sig)
    (hacc : acc.length = n) : (cols.foldl add acc).length = n := by
  induction cols generalizing acc with
  | nil => exact hacc
  | cons c cs ih => exact ih (fun d hd => hc d (by simp [hd])) _ (by simp [hacc, hc c (by simp)])

theorem length_vsum (n : Nat) (cols : List Sig) (hc : ∀ c ∈ cols, c.length = n) : (vsum n cols).length = n :=
  length_foldl_add n cols hc _ (by simp)

theorem foldl_add_smul (c : Rat) (cols : List Sig) (acc : Sig) :
    (cols.map (smul c)).foldl add (smul c acc) = smul c (cols.foldl add acc) := by
  induction cols generalizing acc with
  | nil => rfl
  | cons a t ih => simp only [List.map_cons, List.foldl_cons, smul_add, ih]

theorem vsum_smul (c : Rat) (n : Nat) (cols : List Sig) : vsum n (cols.map (smul c)) = smul c (vsum n cols) := by
  rw [vsum, ← smul_zeros c n, foldl_add_smul, vsum]

theorem vsum_perm (n : Nat) {l₁ l₂ : List Sig} (h : l₁.Perm l₂) : vsum n l₁ = vsum n l₂ := by
  apply List.Perm.foldl_eq' h
  intro a _ b _ z
  rw [add_assoc, add_comm a b, ← add_assoc]

/-! ### time reversal (equal lengths where two signals are combined) -/
theorem sub_reverse (a b : Sig) (h : a.length = b.length) : sub a.reverse b.reverse = (sub a b).reverse :=
  (List.reverse_zipWith h).symm

theorem add_reverse (a b : Sig) (h : a.length = b.length) : add a.reverse b.reverse = (add a b).reverse :=
  (List.reverse_zipWith h).symm

theorem mean2_reverse (a b : Sig) (h : a.length = b.length) : mean2 a.reverse b.reverse = (mean2 a b).reverse :=
  (List.reverse_zipWith h).symm

theorem smul_reverse (c : Rat) (a : Sig) : smul c a.reverse = (smul c a).reverse := by simp [smul]

theorem neg_reverse (x : Sig) : neg x.reverse = (neg x).reverse := by simp [neg]

theorem zeros_reverse (n : Nat) : (zeros n).reverse = zeros n := by simp [zeros]

theorem sum_reverse (l : Sig) : sum l.reverse = sum l := List.sum_reverse l

theorem sumSq_reverse (l : Sig) : sumSq l.reverse = sumSq l := by rw [sumSq, List.map_reverse, sum_reverse, sumSq]

theorem absSum_reverse (l : Sig) : absSum l.reverse = absSum l := by rw [absSum, List.map_reverse, sum_reverse, absSum]

theorem foldl_add_reverse (n : Nat) (cols : List Sig) (hc : ∀ v ∈ cols, v.length = n) (acc : Sig) (hacc : acc.length = n) :
    (cols.map List.reverse).foldl add acc.reverse = (cols.foldl add acc).reverse := by
  induction cols generalizing acc with
  | nil => rfl
  | cons a t ih =>
    have ha : a.length = n := hc a List.mem_cons_self
    rw [List.map_cons, List.foldl_cons, List.foldl_cons, add_reverse acc a (hacc.trans ha.symm)]
    exact ih (fun v hv => hc v (List.mem_cons_of_mem _ hv)) _ (by simp [hacc, ha])

theorem vsum_reverse (n : Nat) (cols : List Sig) (hc : ∀ v ∈ cols, v.length = n) :
    vsum n (cols.map List.reverse) = (vsum n cols).reverse := by
  rw [vsum, ← zeros_reverse, foldl_add_reverse n cols hc _ (by simp), vsum]

/-! ### samples -/

/-- sample `t` of a signal (0 outside) -/
def sval (s : Sig) (t : Nat) : Rat := (s[t]?).getD 0

theorem getElem?_eq_sval (s : Sig) (t : Nat) (h : t < s.length) : s[t]? = some (sval s t) := by
  simp [sval, List.getElem?_eq_getElem h]

theorem sval_zeros (n t : Nat) : sval (zeros n) t = 0 := by
  unfold sval zeros
  by_cases h : t < n
  · simp [h]
  · simp [h]

/-- `f 0 = 0` makes this hold outside the signal too.  `Extrema.at'` and `Phase.getR` are `sval` in the spelling of
    their models (`getD`, a bounds test); their `_map` / `_zipWith` lemmas are instances of the two here. -/
theorem sval_map (f : Rat → Rat) (hf : f 0 = 0) (x : Sig) (t : Nat) : sval (x.map f) t = f (sval x t) := by
  rw [sval, sval, List.getElem?_map]
  cases x[t]? with
  | none => exact hf.symm
  | some v => rfl

theorem sval_zipWith (f : Rat → Rat → Rat) {a b : Sig} {t : Nat} (ha : t < a.length) (hb : t < b.length) :
    sval (List.zipWith f a b) t = f (sval a t) (sval b t) := by
  rw [sval, sval, sval, List.getElem?_zipWith, List.getElem?_eq_getElem ha, List.getElem?_eq_getElem hb]
  rfl

theorem sval_add (a b : Sig) (t : Nat) (ha : t < a.length) (hb : t < b.length) :
    sval (add a b) t = sval a t + sval b t := sval_zipWith _ ha hb

theorem sval_sub (a b : Sig) (t : Nat) (ha : t < a.length) (hb : t < b.length) :
    sval (sub a b) t = sval a t - sval b t := sval_zipWith _ ha hb

theorem sval_foldl_add (cols : List Sig) (acc : Sig) (n t : Nat) (ht : t < n) (hacc : acc.length = n)
    (hc : ∀ c, c ∈ cols → c.length = n) :
    sval (cols.foldl add acc) t = sval acc t + (cols.map (fun c => sval c t)).sum := by
  induction cols generalizing acc with
  | nil => simp [Rat.add_zero]
  | cons c cs ih =>
    have hcl : c.length = n := hc c (by simp)
    simp only [List.foldl_cons, List.map_cons, List.sum_cons]
    rw [ih (add acc c) (by simp [hacc, hcl]) (fun c' h' => hc c' (by simp [h'])),
      sval_add acc c t (hacc ▸ ht) (hcl ▸ ht), Rat.add_assoc]

theorem sval_vsum (n t : Nat) (cols : List Sig) (ht : t < n) (hc : ∀ c, c ∈ cols → c.length = n) :
    sval (vsum n cols) t = (cols.map (fun c => sval c t)).sum := by
  unfold vsum
  rw [sval_foldl_add cols _ n t ht (by simp) hc, sval_zeros, Rat.zero_add]

theorem ext_sval (a b : Sig) (n : Nat) (ha : a.length = n) (hb : b.length = n)
    (h : ∀ t, t < n → sval a t = sval b t) : a = b := by
  apply List.ext_getElem?
  intro t
  by_cases ht : t < n
  · rw [getElem?_eq_sval a t (ha ▸ ht), getElem?_eq_sval b t (hb ▸ ht), h t ht]
  · rw [List.getElem?_eq_none (ha ▸ Nat.le_of_not_lt ht), List.getElem?_eq_none (hb ▸ Nat.le_of_not_lt ht)]

theorem sum_replicate (k : Nat) (v : Rat) : (List.replicate k v).sum = (k : Rat) * v := by
  induction k with
  | zero => simp [Rat.zero_mul]
  | succ k ih =>
    simp only [List.replicate_succ, List.sum_cons, ih]
    have : ((k + 1 : Nat) : Rat) = (k : Rat) + 1 := by simp
    rw [this]; grind

end Sig
