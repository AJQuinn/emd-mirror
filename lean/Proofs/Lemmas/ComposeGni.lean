/- `get_next_imf_mask` (Mask model, C07) over `get_next_imf` (Sift model, C04): `gniX` is the abstract total extraction
   `X : Sig → Sig × Bool` of C07 built from `Sift.getNextImf`.  `get_next_imf` can raise (EMDSiftCovergeError), which
   `X` cannot express, so the composed statements assume that the extractions of the masked signals return;
   `gniX_XSmul` is C02's equivariance contract `Mask.XSmul` for `gniX`. -/
import Proofs.C04
import Proofs.Lemmas.EquivarianceMask

namespace ComposeGni
open Sift Mask

/-- `get_next_imf` as the extractor of the Mask model (a convergence error, which propagates in the
    code, is mapped to the junk value `([], false)`; the theorems exclude it by hypothesis) -/
def gniX (E : Sig → Env) (D : Sig → Sig → Rat) (o : ImfOpts) : Sig → Sig × Bool := fun y =>
  match getNextImf E D o y with
  | .imf c f => (c, f)
  | .convergeError => ([], false)

variable {E : Sig → Env} {D : Sig → Sig → Rat} {o : ImfOpts}

theorem gniX_of_imf {y c : Sig} {f : Bool}
    (h : getNextImf E D o y = .imf c f) : gniX E D o y = (c, f) := by
  simp [gniX, h]

theorem fixed_total (hf : o.stop = .fixed) (hm : 0 < o.maxIters) (y : Sig) : ∃ c f, getNextImf E D o y = .imf c f := by
  have h := C04.fixed_never_convergeError (fun _ => E) o y hf hm
  unfold getNextImf getNextImfIx
  cases hrun : run (fun _ => E) o y with
  | noConverge => exact absurd hrun h
  | stopped k c => exact ⟨_, _, rfl⟩
  | noExtrema k g => exact ⟨_, _, rfl⟩

theorem getNextImfMask_gni (mask : Nat → Sig) (p : Nat)
    (x : Sig) (cs : Nat → Sig) (fs : Nat → Bool)
    (h : ∀ i, i < p → getNextImf E D o (Sig.add x (mask i)) = .imf (cs i) (fs i)) :
    getNextImfMask (gniX E D o) mask p x =
      (Ensemble.meanOver x.length ((List.range p).map fun i => Sig.sub (cs i) (mask i)),
       (List.range p).any fs) := by
  rw [getNextImfMask_eq]
  unfold phaseAverage
  congr 1
  · congr 1
    exact List.map_congr_left fun i hi => by rw [gniX_of_imf (h i (List.mem_range.mp hi))]
  · exact List.any_congr_mem _ _ _ fun i hi => by rw [gniX_of_imf (h i (List.mem_range.mp hi))]

theorem flag_false_iff_env (he : o.energyThresh = none)
    (hb : 0 < budget o) {y c : Sig} {f : Bool} (h : getNextImf E D o y = .imf c f) :
    f = false ↔ ((E y).1 = none ∨ (E y).2 = none) := by
  constructor
  · intro hf
    subst hf
    exact ((C04.flag_false_iff (fun _ => E) D o y c he hb).mp h).2
  · intro hn
    exact (ImfResult.imf.inj (h.symm.trans ((C04.flag_false_iff (fun _ => E) D o y y he hb).mpr ⟨rfl, hn⟩))).2

theorem gniX_XSmul (c : Rat) (hc : c ≠ 0) (E E' : Sig → Env) (hE : EnvSmul c (fun _ => E) (fun _ => E'))
    (D D' : Sig → Sig → Rat) (hD : EnergySmul c D D') :
    Mask.XSmul c (gniX E D o) (gniX E' D' o) := by
  intro y
  have h : getNextImf E' D' o (Sig.smul c y) = (getNextImf E D o y).smul c :=
    getNextImfIx_smul hc hE hD y
  unfold gniX
  rw [h]
  cases getNextImf E D o y with
  | imf v f => rfl
  -- a convergence error on `y` is one on `c • y`: the junk value of `gniX` on both sides
  | convergeError => simp [ImfResult.smul, Sig.smul]

end ComposeGni
