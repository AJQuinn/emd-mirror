/-
  The Sift model (C03) and the Ensemble model (C08) agree on ensemble averaging: `Sift.ensembleCols` (`meanOf` =
  `(1/N)·Σ`, width by a `foldl` of `if`) and `Ensemble.ensembleMean` (`meanOver` = `Σ / N`, width by a `foldr` of
  `max`) compute the same columns.  `siftCols` is the classic-sift oracle `S` of C08 instantiated with the Sift model.
  Last, the two models of `complete_ensemble_sift` (`stepNx`, `siftCeemd_stage`).
-/
import Proofs.Lemmas.SiftVariants
import Proofs.Lemmas.EnsembleDistinct

namespace ComposeEnsemble
open Sift

/-- the classic capped sift of the Sift model as the oracle `S` of the Ensemble model -/
def siftCols (X : Nat → Sig → Option (Sig × Bool)) (thr : Rat) (cap : Option Nat) (fuel : Nat) : Sig → List Sig :=
  fun y => (siftIx X thr cap y fuel).1

theorem colOr_agree (n : Nat) (m : List Sig) (j : Nat) : Sift.colOr n m j = Ensemble.colOr n m j := rfl

theorem meanOf_eq_meanOver (n : Nat) (vs : List Sig) : Sift.meanOf n vs = Ensemble.meanOver n vs := by
  unfold Sift.meanOf Ensemble.meanOver Sig.smul
  apply List.map_congr_left
  intro v _
  rw [Rat.div_def, Rat.div_def, Rat.one_mul, Rat.mul_comm]

theorem maxWidth_agree (members : List (List Sig)) : Sift.maxWidth members = Ensemble.maxWidth members := by
  rw [Sift.maxWidth_eq, Ensemble.maxWidth_eq]

theorem ensembleCols_eq_ensembleMean (n : Nat) (members : List (List Sig)) :
    Sift.ensembleCols n members = Ensemble.ensembleMean n members := by
  unfold Sift.ensembleCols Ensemble.ensembleMean
  rw [maxWidth_agree]
  apply List.map_congr_left
  intro j _
  rw [meanOf_eq_meanOver]
  rfl

/-! ### complete_ensemble_sift, two models

  `Sift.ceemd` / `Sift.ceemdLoop` (C03): the counter / stop logic (fewer than two peaks, cap, mean-abs
  threshold) around an abstract ensemble step `Nx cols proto`.  `Ensemble.ceemd` (C08): the concrete
  ensemble step (noise matrix, members, first IMFs, noise residuals, pools) iterated a given number of
  `stages`, without any stop logic.  `stepNx` is the step of the first built from the ingredients of the
  second; with it the C08 model run for as many stages as the C03 model decides returns the same columns. -/

open Ensemble in
/-- the ensemble step of layer `cols.length`: layer 0 uses the scaled matrix (added as it is, as the
    repaired code does), layer `k+1` the `(k+1)`-fold first-IMF residual of every scaled noise column -/
def stepNx (F Fn : Sig → Sig) (mode : Ensemble.Mode) (scale : Rat) (M : List Sig) : List Sig → Sig → Sig :=
  fun cols proto =>
    match cols.length with
    | 0 => stageImf F mode none proto (M.map (Sig.smul scale))
    | k + 1 => stageImf F mode none proto (M.map fun m => residualPow Fn (k + 1) (Sig.smul scale m))

section
open Ensemble

theorem stepNx_eq (F Fn : Sig → Sig) (mode : Ensemble.Mode) (scale : Rat) (M : List Sig) (cols : List Sig) (proto : Sig) :
    stepNx F Fn mode scale M cols proto = stageImf F mode none proto (stageNoise Fn scale M cols.length) := by
  unfold stepNx
  cases cols.length <;> rfl

theorem siftCeemd_stage (F Fn : Sig → Sig) (mode : Ensemble.Mode) (scale : Rat) (M : List Sig) (thr : Rat) (cap : Option Nat)
    (x : Sig) (fuel : Nat) : ∃ n, 1 ≤ n ∧
    (Sift.ceemd (stepNx F Fn mode scale M) thr cap x fuel).1 = stageCols F Fn mode scale M x n := by
  refine Sift.ceemd_inv (P := fun cols => ∃ n, 1 ≤ n ∧ cols = stageCols F Fn mode scale M x n)
    ⟨1, Nat.le_refl _, ?_⟩ ?_ fuel
  · simp [stepNx_eq, stageCols, Sig.vsum, Sig.sub_zeros]
  · rintro _ ⟨n, hn, rfl⟩ _
    exact ⟨n + 1, Nat.le_succ_of_le hn, by rw [stepNx_eq, length_stageCols, stageCols]; rfl⟩

end

end ComposeEnsemble
