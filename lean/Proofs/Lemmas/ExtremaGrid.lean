/- The evaluation grid of `interp_envelope`: which sample indices `arange` from an integer start hits (`arange_filter`),
   the sample grid `0 … n-1` when the ends are covered, fewer than `n` points from a positive start. -/
import EmdModel.Extrema
import Proofs.Lemmas.Positions
import Mathlib.Algebra.Order.Field.Rat
import Mathlib.Algebra.Order.Ring.Cast

namespace Extrema

theorem onSamples_iff (n : Nat) (t : Rat) : onSamples n t = true ↔ 0 ≤ t ∧ t < (n : Rat) := by
  simp [onSamples]

theorem range_filter_Ico (a b N : Nat) :
    (List.range N).filter (fun k => decide (a ≤ k ∧ k < b)) = List.range' a (min N b - a) :=
  -- both sides are increasing, so it is enough to compare members
  List.eq_of_sorted_of_mem_iff (List.pairwise_lt_range.filter _) List.pairwise_lt_range' fun k => by
    simp only [List.mem_filter, List.mem_range, decide_eq_true_eq, List.mem_range'_1]
    omega

/-- the points of `arange c z` (integer start `c`) kept by the sample filter: the integers of
    `[max c 0, min (c + ⌈z − c⌉) n)` -/
theorem arange_filter (c : Int) (z : Rat) (n : Nat) :
    (arange (c : Rat) z).filter (onSamples n) =
      (List.range' (-c).toNat (min (z - (c : Rat)).ceil.toNat (n - c).toNat - (-c).toNat)).map
        fun (k : Nat) => ((c + (k : Int) : Int) : Rat) := by
  rw [← range_filter_Ico, arange, List.filter_map]
  refine congrArg₂ _ (funext fun k => by push_cast; rfl) (List.filter_congr fun k _ => ?_)
  rw [Function.comp, Bool.eq_iff_iff, onSamples_iff, decide_eq_true_iff]
  have e : (c : Rat) + (k : Rat) = ((c + (k : Int) : Int) : Rat) := by push_cast; rfl
  rw [e, ← Int.cast_zero (R := Rat), Int.cast_le, ← Int.cast_natCast (R := Rat) n, Int.cast_lt]
  omega

theorem arange_filter_eq_range (c : Int) (z : Rat) (n : Nat) (hc : c ≤ 0) (hz : (n : Rat) ≤ z) :
    (arange (c : Rat) z).filter (onSamples n) = (List.range n).map (fun (k : Nat) => (k : Rat)) := by
  have hN : (n - c).toNat ≤ (z - (c : Rat)).ceil.toNat := by
    refine Int.toNat_le_toNat (Int.cast_le (R := Rat).mp (le_trans ?_ Rat.le_ceil))
    push_cast; exact sub_le_sub_right hz _
  rw [arange_filter, Nat.min_eq_right hN, show (n - c).toNat - (-c).toNat = n by omega, List.range'_eq_map_range,
    List.map_map]
  refine List.map_congr_left fun k _ => ?_
  show ((c + ((-c).toNat + k : Nat) : Int) : Rat) = ((k : Int) : Rat)
  congr 1
  omega

theorem envGrid_eq_range' {locs : List Rat} {n : Nat} {a z : Rat} (ha : locs.head? = some a)
    (hz : locs.getLast? = some z) (h0 : a ≤ 0) (hn : (n : Rat) ≤ z) :
    envGrid locs n = (List.range n).map (fun (k : Nat) => (k : Rat)) := by
  unfold envGrid
  rw [ha, hz]
  exact arange_filter_eq_range a.ceil z n (Rat.ceil_le_iff.mpr (by simpa using h0)) hn

theorem envGrid_length_lt {locs : List Rat} {n : Nat} {a : Rat} (ha : locs.head? = some a) (h0 : 0 < a) (hn : 1 ≤ n) :
    (envGrid locs n).length < n := by
  unfold envGrid
  rw [ha]
  cases locs.getLast? with
  | none => exact Nat.lt_of_lt_of_le Nat.zero_lt_one hn
  | some z =>
    have hc : (0 : Int) < a.ceil := Rat.lt_ceil_iff.mpr (by rwa [Int.cast_zero])
    dsimp only
    rw [arange_filter, List.length_map, List.length_range']
    omega

end Extrema
