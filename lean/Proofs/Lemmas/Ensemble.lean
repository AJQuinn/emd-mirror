/- EmdModel.Ensemble with the pools removed: when the parent draws, member `i` gets draw `i` (`ensembleTrace_eq`,
   `ensembleSift_eq`); when the forked workers draw, member `j` gets the draw numbered by its rank in its worker
   (`ensembleTraceForkDraw_eq`).  Flip halves and means column by column; one fan-out and one noise step of
   `complete_ensemble_sift`. -/
import EmdModel.Ensemble
import Proofs.Lemmas.EnsemblePool
import Proofs.Lemmas.MaskSig

namespace Ensemble
open Pool
variable {ρ : Type}
variable {σ : Schedule} {p : Nat} {draw : ρ → Sig × ρ} {g : ρ} {S : Sig → List Sig} {mode : Mode} {x : Sig}

theorem nthDraw_succ (k : Nat) :
    nthDraw draw g (k + 1) = nthDraw draw (draw g).2 k := rfl

theorem drawN_eq_map (N : Nat) :
    drawN draw N g = (List.range N).map (nthDraw draw g) := by
  induction N generalizing g with
  | zero => rfl
  | succ k ih =>
    simp only [drawN, ih, List.range_succ_eq_map, List.map_cons, List.map_map]
    rfl

theorem nthDraw_counter (g k : Nat) : nthDraw counterDraw g k = [((g + k : Nat) : Rat)] := by
  induction k generalizing g with
  | zero => rfl
  | succ k ih =>
    rw [nthDraw_succ]
    simp only [counterDraw]
    rw [ih]
    congr 2; omega

theorem nthDraw_counter_injective (g : Nat) : Function.Injective (nthDraw counterDraw g) := by
  intro a b h
  rw [nthDraw_counter, nthDraw_counter] at h
  simp only [List.cons.injEq, and_true] at h
  have : g + a = g + b := by exact_mod_cast h
  omega

theorem ensembleTrace_eq {N : Nat} {scale : Rat} (hσ : σ.Valid N p) :
    ensembleTrace σ draw g S mode N scale x
      = (List.range N).map fun i => (nthDraw draw g i, siftWithNoise S mode (some scale) x (nthDraw draw g i)) := by
  unfold ensembleTrace
  rw [runPool_eq_map (by simp [drawN_eq_map]) hσ, drawN_eq_map, List.map_map]
  rfl

/-! ### noise drawn inside the forked workers (the pinned code) -/

/-- generator state after `k` draws -/
def advance (draw : ρ → Sig × ρ) : Nat → ρ → ρ
  | 0, g => g
  | k + 1, g => advance draw k (draw g).2

theorem nthDraw_eq_advance (k : Nat) :
    nthDraw draw g k = (draw (advance draw k g)).1 := by
  induction k generalizing g with
  | zero => rfl
  | succ k ih => simp [nthDraw, advance, ih]

theorem advance_succ' (draw : ρ → Sig × ρ) (g : ρ) (k : Nat) :
    advance draw (k + 1) g = (draw (advance draw k g)).2 := by
  induction k generalizing g with
  | zero => rfl
  | succ k ih => simp only [advance] at ih ⊢; rw [ih]

/-- number of jobs of `l` (valid indices) that run on worker `w` -/
def jobsOn (worker : Nat → Nat) (N : Nat) (w : Nat) (l : List Nat) : Nat :=
  (l.filter fun i => decide (i < N) && decide (worker i = w)).length

theorem jobsOn_cons (worker : Nat → Nat) (N w j : Nat) (rest : List Nat) :
    jobsOn worker N w (j :: rest)
      = if j < N ∧ worker j = w then jobsOn worker N w rest + 1 else jobsOn worker N w rest := by
  unfold jobsOn
  rw [List.filter_cons]
  by_cases h : j < N ∧ worker j = w
  · simp [h]
  · rw [if_neg h, if_neg (by simpa using h)]

theorem stateAfter_forkdraw {β : Type} (draw : ρ → Sig × ρ) (out : Sig → β) (worker : Nat → Nat) (N : Nat)
    (st : Nat → ρ) (pre : List Nat) (w : Nat) :
    stateAfter (fun gw (_ : Nat) => (out (draw gw).1, (draw gw).2)) (List.range N) worker st pre w
      = advance draw (jobsOn worker N w pre) (st w) := by
  induction pre generalizing st with
  | nil => rfl
  | cons j rest ih =>
    rw [stateAfter, jobsOn_cons]
    by_cases hj : j < N
    · rw [List.getElem?_range hj]
      simp only [ih, upd, hj, true_and]
      by_cases hw : worker j = w
      · rw [if_pos hw, if_pos hw.symm, advance, hw]
      · rw [if_neg hw, if_neg (Ne.symm hw)]
    · rw [List.getElem?_eq_none (by simpa using hj)]
      simp only [ih, hj, false_and, if_false]

/-- rank of job `j` among the jobs of its own worker, in execution order -/
def rankInWorker (σ : Schedule) (N : Nat) (j : Nat) : Nat :=
  jobsOn σ.worker N (σ.worker j) (σ.order.takeWhile (· != j))

theorem ensembleTraceForkDraw_eq {N : Nat} {scale : Rat} (hσ : σ.Valid N p) :
    ensembleTraceForkDraw σ draw g S mode N scale x
      = (List.range N).map fun j => (nthDraw draw g (rankInWorker σ N j),
          siftWithNoise S mode (some scale) x (nthDraw draw g (rankInWorker σ N j))) := by
  unfold ensembleTraceForkDraw
  rw [runPoolFork_eq σ _ g _ (fun j hj => (hσ.mem j).mpr (by simpa using hj))]
  apply List.ext_getElem?
  intro j
  by_cases hj : j < N
  · simp [hj, stateAfter_forkdraw draw (fun ν => (ν, siftWithNoise S mode (some scale) x ν)), rankInWorker,
      nthDraw_eq_advance]
  · simp [hj]

theorem takeWhile_ne_range (N j : Nat) (hj : j < N) : (List.range N).takeWhile (· != j) = List.range j := by
  obtain ⟨m, rfl⟩ : ∃ m, N = j + (m + 1) := ⟨N - j - 1, by omega⟩
  rw [List.range_add, List.takeWhile_append_of_pos (fun a ha => by simpa using Nat.ne_of_lt (List.mem_range.mp ha)),
    List.range_succ_eq_map, List.map_cons, List.takeWhile_cons_of_neg (by simp), List.append_nil]

/-- round robin: each of the first `p` jobs is the first job of its worker (no earlier job has its residue mod `p`),
    so under the pinned code they all receive the parent's first draw -/
theorem rankInWorker_roundRobin (N p j : Nat) (hj : j < N) (hjp : j < p) :
    rankInWorker (Schedule.roundRobin N p) N j = 0 := by
  rw [rankInWorker, jobsOn, Schedule.roundRobin, takeWhile_ne_range N j hj, List.length_eq_zero_iff,
    List.filter_eq_nil_iff]
  intro i hi
  have := List.mem_range.mp hi
  simp [Nat.mod_eq_of_lt hjp, Nat.mod_eq_of_lt (Nat.lt_trans this hjp), Nat.ne_of_lt this]

/-! ### columns, flip halves, means -/

theorem length_colOr (n : Nat) (r : List Sig) (j : Nat) (hr : ∀ c, c ∈ r → c.length = n) :
    (colOr n r j).length = n := Sig.length_getD_zeros hr j

theorem colOr_of_getElem? (n : Nat) (r : List Sig) (j : Nat) (c : Sig) (h : r[j]? = some c) : colOr n r j = c := by
  simp [colOr, h]

theorem colOr_of_ge (n : Nat) (r : List Sig) (j : Nat) (h : r.length ≤ j) : colOr n r j = Sig.zeros n := by
  simp [colOr, List.getElem?_eq_none h]

theorem sval_half (a : Sig) (t : Nat) : Sig.sval (half a) t = Sig.sval a t / 2 :=
  Sig.sval_map (· / 2) (by decide +kernel) a t

theorem length_flipMean (n : Nat) (a b : List Sig) : (flipMean n a b).length = max a.length b.length := by
  simp [flipMean]

theorem mem_flipMean_length (n : Nat) (a b : List Sig) (ha : ∀ c, c ∈ a → c.length = n) (hb : ∀ c, c ∈ b → c.length = n) :
    ∀ c, c ∈ flipMean n a b → c.length = n := by
  intro c hc
  obtain ⟨j, _, rfl⟩ := List.mem_map.mp hc
  simp [half, length_colOr n a j ha, length_colOr n b j hb]

theorem sval_flipMean (n : Nat) (a b : List Sig) (j t : Nat) (ht : t < n)
    (ha : ∀ c, c ∈ a → c.length = n) (hb : ∀ c, c ∈ b → c.length = n) :
    Sig.sval (colOr n (flipMean n a b) j) t = (Sig.sval (colOr n a j) t + Sig.sval (colOr n b j) t) / 2 := by
  have hla := length_colOr n a j ha
  have hlb := length_colOr n b j hb
  by_cases hj : j < max a.length b.length
  · have : (flipMean n a b)[j]? = some (half (Sig.add (colOr n a j) (colOr n b j))) := by
      simp [flipMean, hj]
    rw [colOr_of_getElem? _ _ _ _ this, sval_half,
      Sig.sval_add _ _ _ (hla.symm ▸ ht) (hlb.symm ▸ ht)]
  · have hj := Nat.not_lt.mp hj
    rw [colOr_of_ge _ _ _ (by rwa [length_flipMean]), colOr_of_ge _ _ _ (Nat.le_trans (Nat.le_max_left _ _) hj),
      colOr_of_ge _ _ _ (Nat.le_trans (Nat.le_max_right _ _) hj), Sig.sval_zeros]
    decide +kernel

theorem half_add_self (c : Sig) : half (Sig.add c c) = c := by
  have : ∀ a : Rat, (a + a) / 2 = a := fun a => by grind
  simp [half, Sig.add, List.zipWith_self, Function.comp_def, this]

theorem flipMean_self (n : Nat) (a : List Sig) : flipMean n a a = a := by
  unfold flipMean
  apply List.ext_getElem?
  intro j
  by_cases hj : j < a.length
  · simp [hj, colOr, half_add_self]
  · simp [hj]

theorem siftWithNoise_some (c : Rat) (ν : Sig) :
    siftWithNoise S mode (some c) x ν = siftWithNoise S mode none x (Sig.smul c ν) := rfl

theorem siftWithNoise_zero (ν : Sig) (hν : ν.length = x.length) :
    siftWithNoise S mode (some 0) x ν = S x := by
  have h1 : Sig.add x (Sig.smul 0 ν) = x := by rw [Sig.zero_smul, hν, Sig.add_zeros]
  have h2 : Sig.sub x (Sig.smul 0 ν) = x := by rw [Sig.zero_smul, hν, Sig.sub_zeros]
  cases mode with
  | single => simp [siftWithNoise, h1]
  | flip => simp [siftWithNoise, h1, h2, flipMean_self]

theorem mem_siftWithNoise_length (scale : Option Rat) (ν : Sig)
    (hS : ∀ y c, c ∈ S y → c.length = x.length) : ∀ c, c ∈ siftWithNoise S mode scale x ν → c.length = x.length := by
  cases mode with
  | single => intro c hc; exact hS _ c hc
  | flip => exact mem_flipMean_length _ _ _ (hS _) (hS _)

/-- the width of the ensemble mean is `np.max` over the members' widths -/
theorem maxWidth_eq (members : List (List Sig)) : maxWidth members = (members.map List.length).foldl max 0 := by
  rw [← List.foldr_eq_foldl, List.foldr_map]
  rfl

theorem maxWidth_replicate (N : Nat) (r : List Sig) (hN : 0 < N) : maxWidth (List.replicate N r) = r.length := by
  rw [maxWidth_eq, List.map_replicate, List.foldl_max, List.max?_replicate_of_pos hN, Option.getD_some]
  exact Nat.max_eq_right (Nat.zero_le _)

theorem map_colOr_range (n : Nat) (r : List Sig) : (List.range r.length).map (colOr n r) = r := by
  apply List.ext_getElem?
  intro j
  by_cases hj : j < r.length
  · simp [hj, colOr]
  · simp [hj]

theorem ensembleMean_replicate (n N : Nat) (r : List Sig) (hN : 0 < N) (hr : ∀ c, c ∈ r → c.length = n) :
    ensembleMean n (List.replicate N r) = r := by
  rw [ensembleMean, maxWidth_replicate N r hN]
  conv => rhs; rw [← map_colOr_range n r]
  apply List.map_congr_left
  intro j _
  rw [List.map_replicate, meanOver_replicate n N _ hN (length_colOr n r j hr)]

/-- the decomposition of member `i` of the repaired code: sifted with the `i`-th draw of the parent -/
def member (draw : ρ → Sig × ρ) (g : ρ) (S : Sig → List Sig) (mode : Mode) (scale : Rat) (x : Sig) (i : Nat) : List Sig :=
  siftWithNoise S mode (some scale) x (nthDraw draw g i)

/-- number of columns of the ensemble result: those of the widest member (members are capped by their sift) -/
def width (draw : ρ → Sig × ρ) (g : ρ) (S : Sig → List Sig) (mode : Mode) (N : Nat) (scale : Rat) (x : Sig) : Nat :=
  maxWidth ((List.range N).map (member draw g S mode scale x))

theorem ensembleSift_eq {N : Nat} {scale : Rat} (hσ : σ.Valid N p) :
    ensembleSift σ draw g S mode N scale x
      = ensembleMean x.length ((List.range N).map (member draw g S mode scale x)) := by
  rw [ensembleSift, ensembleTrace_eq hσ, List.map_map]
  rfl

theorem member_inputs_ne (a b : Sig) (s : Rat) (hs : s ≠ 0) (ha : a.length = x.length) (hb : b.length = x.length)
    (hab : a ≠ b) :
    Sig.add x (Sig.smul s a) ≠ Sig.add x (Sig.smul s b) ∧ Sig.sub x (Sig.smul s a) ≠ Sig.sub x (Sig.smul s b) := by
  have hl : ∀ v : Sig, v.length = x.length → (Sig.smul s v).length = x.length := fun v hv => by simp [Sig.smul, hv]
  exact ⟨fun h => hab (Sig.smul_injective s hs (Sig.add_left_cancel x _ _ (hl a ha) (hl b hb) h)),
    fun h => hab (Sig.smul_injective s hs (Sig.sub_left_cancel x _ _ (hl a ha) (hl b hb) h))⟩

/-! ### complete ensemble -/

theorem ceemdMembers_eq {F : Sig → Sig} {scale : Option Rat} {proto : Sig}
    (noise : List Sig) (hσ : σ.Valid noise.length p) :
    ceemdMembers σ F mode scale proto noise
      = noise.map fun ν => (ν, siftWithNoise (fun y => [F y]) mode scale proto ν) := by
  exact runPool_eq_map rfl hσ

/-- `ceemdImf` with the pool removed: the mean, over the columns `ν` of the noise matrix, of the first IMF that
    `_sift_with_noise(proto, scale, ν, max_imfs=1)` returns -/
def stageImf (F : Sig → Sig) (mode : Mode) (scale : Option Rat) (proto : Sig) (noise : List Sig) : Sig :=
  meanOver proto.length (noise.map fun ν => colOr proto.length (siftWithNoise (fun y => [F y]) mode scale proto ν) 0)

theorem ceemdImf_eq {F : Sig → Sig} {scale : Option Rat} {proto : Sig}
    (noise : List Sig) (hσ : σ.Valid noise.length p) :
    ceemdImf σ F mode scale proto noise = stageImf F mode scale proto noise := by
  unfold ceemdImf stageImf
  rw [ceemdMembers_eq noise hσ, List.map_map]
  rfl

/-- removing the first IMF of a noise column -/
def noiseResidual (Fn : Sig → Sig) (ν : Sig) : Sig := Sig.sub ν (Fn ν)

theorem ceemdNoiseStep_eq {Fn : Sig → Sig} (noise : List Sig) (hσ : σ.Valid noise.length p) :
    ceemdNoiseStep σ Fn noise = noise.map (noiseResidual Fn) := by
  unfold ceemdNoiseStep
  rw [runPool_eq_map rfl hσ, List.zipWith_map_right, List.zipWith_self]
  rfl

end Ensemble
