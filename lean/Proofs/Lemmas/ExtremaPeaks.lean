/- Extrema detection: membership in `peaksFrom` / `findPeaks` in offset form, sortedness, and the sample accessor
   `at'` under pointwise maps. -/
import EmdModel.Extrema
import Proofs.Lemmas.Sig

namespace Extrema

theorem mem_peaksFrom (k : Nat) (l : List Rat) (j : Nat) :
    j ∈ peaksFrom k l ↔
      ∃ i a b c, j = k + i + 1 ∧ l[i]? = some a ∧ l[i + 1]? = some b ∧ l[i + 2]? = some c ∧ a < b ∧ c < b := by
  fun_induction peaksFrom k l with
  | case1 k a b c t h ih =>
    rw [List.mem_cons, ih]
    constructor
    · rintro (rfl | ⟨i, a', b', c', rfl, h'⟩)
      · exact ⟨0, a, b, c, rfl, rfl, rfl, rfl, h⟩
      · exact ⟨i + 1, a', b', c', by omega, h'⟩
    · rintro ⟨_ | i, a', b', c', rfl, h'⟩
      · exact .inl rfl
      · exact .inr ⟨i, a', b', c', by omega, h'⟩
  | case2 k a b c t h ih =>
    rw [ih]
    constructor
    · rintro ⟨i, a', b', c', rfl, h'⟩
      exact ⟨i + 1, a', b', c', by omega, h'⟩
    · rintro ⟨_ | i, a', b', c', rfl, h1, h2, h3, h4⟩
      · simp only [List.getElem?_cons_zero, List.getElem?_cons_succ, Option.some.injEq] at h1 h2 h3
        exact absurd (h1 ▸ h2 ▸ h3 ▸ h4) h
      · exact ⟨i, a', b', c', by omega, h1, h2, h3, h4⟩
  | case3 l k h =>
    simp only [List.not_mem_nil, false_iff]
    rintro ⟨i, a, b, c, -, -, -, h3, -⟩
    have hlen := (List.getElem?_eq_some_iff.mp h3).1
    match l, h with
    | [], _ => simp at hlen
    | [_], _ => simp at hlen
    | [_, _], _ => simp at hlen; omega
    | x :: y :: z :: t, h => exact h x y z t rfl

theorem peaksFrom_sorted (k : Nat) (l : List Rat) : (peaksFrom k l).Pairwise (· < ·) := by
  fun_induction peaksFrom k l with
  | case1 i a b c t h ih =>
    refine List.pairwise_cons.mpr ⟨fun j hj => ?_, ih⟩
    obtain ⟨_, _, _, _, rfl, _⟩ := (mem_peaksFrom _ _ j).mp hj
    omega
  | case2 i a b c t h ih => exact ih
  | case3 => exact List.Pairwise.nil

theorem at'_eq_of_getElem? {x : Sig} {i : Nat} {a : Rat} (h : x[i]? = some a) : at' x i = a := by
  simp [at', h]

theorem getElem?_eq_at' {x : Sig} {i : Nat} (h : i < x.length) : x[i]? = some (at' x i) := by
  simp [at', h]

theorem at'_eq_getElem! (x : Sig) (i : Nat) : at' x i = x[i]! := by
  rw [at', List.getD_eq_getElem?_getD, List.getElem!_eq_getElem?_getD]
  rfl

theorem mem_findPeaks_at' (x : Sig) (i : Nat) :
    i ∈ findPeaks x ↔ 0 < i ∧ i + 1 < x.length ∧ at' x (i - 1) < at' x i ∧ at' x (i + 1) < at' x i := by
  rw [findPeaks, mem_peaksFrom]
  constructor
  · rintro ⟨j, a, b, c, rfl, h1, h2, h3, h4, h5⟩
    rw [Nat.zero_add, Nat.add_sub_cancel, at'_eq_of_getElem? h1, at'_eq_of_getElem? h2, at'_eq_of_getElem? h3]
    exact ⟨Nat.succ_pos j, (List.getElem?_eq_some_iff.mp h3).1, h4, h5⟩
  · rintro ⟨hk, hlen, h4, h5⟩
    obtain ⟨j, rfl⟩ : ∃ j, i = j + 1 := ⟨i - 1, (Nat.sub_add_cancel hk).symm⟩
    exact ⟨j, _, _, _, (Nat.zero_add _).symm, getElem?_eq_at' (Nat.lt_of_succ_lt (Nat.lt_of_succ_lt hlen)),
      getElem?_eq_at' (Nat.lt_of_succ_lt hlen), getElem?_eq_at' hlen, h4, h5⟩

theorem findPeaks_lt {x : Sig} {i : Nat} (h : i ∈ findPeaks x) : i < x.length :=
  Nat.lt_of_succ_lt ((mem_findPeaks_at' x i).mp h).2.1

theorem findPeaks_not_adjacent' (x : Sig) : (findPeaks x).Pairwise (fun i j => i + 2 ≤ j) := by
  refine List.Pairwise.imp_of_mem ?_ (peaksFrom_sorted 0 x)
  intro i j hi hj hij
  rcases Nat.lt_or_ge j (i + 2) with hcon | hge
  case inr => exact hge
  obtain rfl : j = i + 1 := by omega
  have h1 := ((mem_findPeaks_at' x i).mp hi).2.2.2
  have h2 := ((mem_findPeaks_at' x (i + 1)).mp hj).2.2.1
  exact absurd h1 (Rat.not_lt.mpr (Rat.le_of_lt h2))

theorem at'_map (f : Rat → Rat) (hf : f 0 = 0) (x : Sig) (i : Nat) : at' (x.map f) i = f (at' x i) := by
  exact Sig.sval_map f hf x i

theorem at'_neg (x : Sig) (i : Nat) : at' (Sig.neg x) i = - at' x i := at'_map (- ·) (by decide +kernel) x i

theorem at'_smul (c : Rat) (x : Sig) (i : Nat) : at' (Sig.smul c x) i = c * at' x i :=
  at'_map (c * ·) (Rat.mul_zero c) x i

theorem at'_abs (x : Sig) (i : Nat) : at' (x.map Rat.abs') i = Rat.abs' (at' x i) :=
  at'_map _ (by decide +kernel) x i

end Extrema
