/- Rescaling by `c ≠ 0` through the sift model: the stop rules, `loop`, `getNextImfIx` and `peelLoop` for every envelope and
   energy oracle meeting `EnvSmul` / `EnergySmul`, and the Extrema-model envelopes (`extEnv`) as such an envelope oracle. -/
import Proofs.Lemmas.EquivarianceScale
import Proofs.Lemmas.SiftOuter
import Proofs.Lemmas.ExtEnv

namespace Sift
open Sig (abs'_mul abs'_pos_of_ne abs'_sub_comm absSum_lt_smul smul_sub smul_mean2 mean2_comm sumSq_smul vsum_smul)

variable {c : Rat}

/-! ### the stopping rules are scale-free -/

theorem sdStop_smul' (hc : c ≠ 0) (thr : Rat) (h x1 : Sig) :
    sdStop thr (Sig.smul c h) (Sig.smul c x1) = sdStop thr h x1 := by
  unfold sdStop
  rw [smul_sub, sumSq_smul, sumSq_smul, mul_left_comm]
  exact decide_eq_decide.mpr (Rat.mul_lt_mul_left (mul_self_pos.mpr hc))

theorem rillingBig_smul (hc : c ≠ 0) (sd : Rat) (U L : Sig) :
    rillingBig sd (Sig.smul c U) (Sig.smul c L) = rillingBig sd U L := by
  unfold rillingBig Sig.smul
  rw [List.zipWith_map_left, List.zipWith_map_right]
  congr 1
  funext u l
  -- both sides of the comparison carry the factor `|c| > 0`
  rw [← mul_sub, ← mul_add, mul_div_assoc, abs'_mul, abs'_mul, mul_div_assoc, mul_left_comm]
  exact decide_eq_decide.mpr (Rat.mul_lt_mul_left (abs'_pos_of_ne c hc))

theorem rillingBig_swap (sd : Rat) (U L : Sig) : rillingBig sd L U = rillingBig sd U L := by
  unfold rillingBig
  rw [List.zipWith_comm]
  congr 1
  funext u l
  rw [abs'_sub_comm u l, add_comm u l]

theorem rillingStop_smul' (hc : c ≠ 0) (a b t : Rat) (U L : Sig) :
    rillingStop a b t (Sig.smul c U) (Sig.smul c L) = rillingStop a b t U L := by
  unfold rillingStop
  simp only [rillingBig_smul hc]

theorem rillingStop_swap (a b t : Rat) (U L : Sig) : rillingStop a b t L U = rillingStop a b t U L := by
  unfold rillingStop
  simp only [rillingBig_swap]

theorem stopTest_smul (hc : c ≠ 0) (r : StopRule) (k m : Nat) (h x1 U L : Sig) :
    stopTest r k m (Sig.smul c h) (Sig.smul c x1) (Sig.smul c U) (Sig.smul c L) = stopTest r k m h x1 U L ∧
    stopTest r k m (Sig.smul c h) (Sig.smul c x1) (Sig.smul c L) (Sig.smul c U) = stopTest r k m h x1 U L := by
  cases r with
  | sd thr => exact ⟨sdStop_smul' hc thr h x1, sdStop_smul' hc thr h x1⟩
  | rilling a b t =>
    exact ⟨rillingStop_smul' hc a b t U L, by
      show rillingStop a b t (Sig.smul c L) (Sig.smul c U) = rillingStop a b t U L
      rw [rillingStop_smul' hc, rillingStop_swap]⟩
  | fixed => exact ⟨rfl, rfl⟩

/-! ### vocabulary: scaled outcomes, equivariant oracles -/

/-- what a rescaling does to a pair of envelopes: both scale; for `c < 0` upper and lower trade places -/
def envSmul (c : Rat) (e : Env) : Env :=
  if 0 < c then (e.1.map (Sig.smul c), e.2.map (Sig.smul c)) else (e.2.map (Sig.smul c), e.1.map (Sig.smul c))

/-- `E'` is to `c • h` what `E` is to `h` (the code's oracle: `E' = E`) -/
def EnvSmul (c : Rat) (E E' : Nat → Sig → Env) : Prop := ∀ k h, E' k (Sig.smul c h) = envSmul c (E k h)

/-- the energy difference in dB is a ratio of energies: scale-free -/
def EnergySmul (c : Rat) (D D' : Sig → Sig → Rat) : Prop := ∀ a b, D' (Sig.smul c a) (Sig.smul c b) = D a b

def Outcome.smul (c : Rat) : Outcome → Outcome
  | .stopped k v => .stopped k (Sig.smul c v)
  | .noExtrema k h => .noExtrema k (Sig.smul c h)
  | .noConverge => .noConverge

def ImfResult.smul (c : Rat) : ImfResult → ImfResult
  | .imf v f => .imf (Sig.smul c v) f
  | .convergeError => .convergeError

/-! ### one extraction -/

variable {E E' : Nat → Sig → Env} {D D' : Sig → Sig → Rat} {o : ImfOpts}

theorem loop_smul (hc : c ≠ 0) (hE : EnvSmul c E E') :
    ∀ (fuel k : Nat) (h : Sig), loop E' o fuel k (Sig.smul c h) = (loop E o fuel k h).smul c := by
  intro fuel
  induction fuel with
  | zero => intro k h; rfl
  | succ fuel ih =>
    intro k h
    unfold loop
    rw [hE k h]
    rcases hEk : E k h with ⟨_ | U, _ | L⟩
    · by_cases hpos : 0 < c <;> simp [envSmul, hpos, Outcome.smul]
    · by_cases hpos : 0 < c <;> simp [envSmul, hpos, Outcome.smul]
    · by_cases hpos : 0 < c <;> simp [envSmul, hpos, Outcome.smul]
    · have hst := stopTest_smul hc o.stop (k + 1) o.maxIters h (Sig.sub h (Sig.mean2 U L)) U L
      have hstep : ∀ a, Sig.smul o.step (Sig.smul c a) = Sig.smul c (Sig.smul o.step a) := fun a => by
        rw [Sig.smul_smul, Sig.smul_smul, Rat.mul_comm]
      by_cases hpos : 0 < c
      · simp only [envSmul, hpos, if_true, Option.map_some, smul_mean2, smul_sub, hst.1, hstep, ih]
        split <;> simp [Outcome.smul]
      · simp only [envSmul, hpos, if_false, Option.map_some, smul_mean2, mean2_comm L U, smul_sub, hst.2, hstep, ih]
        split <;> simp [Outcome.smul]

theorem energyFlag_congr {x x' v v' : Sig}
    (h : D' x' (Sig.sub x' v') = D x (Sig.sub x v)) (f : Bool) : energyFlag D' o x' v' f = energyFlag D o x v f := by
  unfold energyFlag
  rw [h]

theorem getNextImfIx_smul (hc : c ≠ 0) (hE : EnvSmul c E E') (hD : EnergySmul c D D') (x : Sig) :
    getNextImfIx E' D' o (Sig.smul c x) = (getNextImfIx E D o x).smul c := by
  have hflag : ∀ v f, energyFlag D' o (Sig.smul c x) (Sig.smul c v) f = energyFlag D o x v f := fun v f =>
    energyFlag_congr (by rw [smul_sub, hD x (Sig.sub x v)]) f
  unfold getNextImfIx run
  rw [loop_smul hc hE]
  cases loop E o (budget o) 0 x with
  | stopped k v => simp only [Outcome.smul, finish, ImfResult.smul, hflag]
  | noExtrema k h => simp only [Outcome.smul, finish, ImfResult.smul, hflag]
  | noConverge => rfl

theorem extractorIx_smul (hc : c ≠ 0) (hE : EnvSmul c E E') (hD : EnergySmul c D D') (p : Sig) :
    extractorIx E' D' o (Sig.smul c p) = (extractorIx E D o p).map fun r => (Sig.smul c r.1, r.2) := by
  unfold extractorIx
  rw [getNextImfIx_smul hc hE hD p]
  cases getNextImfIx E D o p <;> rfl

/-! ### the outer loop -/

/-- the extraction of `c • proto` (given the scaled columns) is the scaled extraction of `proto` -/
def PeelSmul (c : Rat) (X X' : List Sig → Sig → Option (Sig × Bool)) : Prop :=
  ∀ cols p, X' (cols.map (Sig.smul c)) (Sig.smul c p) = (X cols p).map fun r => (Sig.smul c r.1, r.2)

theorem peelLoop_smul (hc : c ≠ 0) (X X' : List Sig → Sig → Option (Sig × Bool)) (hX : PeelSmul c X X')
    (thr : Rat) (cap : Option Nat) (x : Sig) :
    ∀ (fuel : Nat) (cols : List Sig) (proto : Sig),
      peelLoop X' (Rat.abs' c * thr) cap (Sig.smul c x) fuel (cols.map (Sig.smul c)) (Sig.smul c proto)
        = ((peelLoop X thr cap x fuel cols proto).1.map (Sig.smul c), (peelLoop X thr cap x fuel cols proto).2) := by
  intro fuel
  induction fuel with
  | zero => intro cols proto; rfl
  | succ fuel ih =>
    intro cols proto
    unfold peelLoop
    rw [hX cols proto]
    cases hXc : X cols proto with
    | none => rfl
    | some r =>
      obtain ⟨v, cont⟩ := r
      have hthr : decide (Sig.absSum (Sig.smul c v) < Rat.abs' c * thr) = decide (Sig.absSum v < thr) :=
        decide_eq_decide.mpr (absSum_lt_smul c hc v thr)
      have hcols : cols.map (Sig.smul c) ++ [Sig.smul c v] = (cols ++ [v]).map (Sig.smul c) := by simp
      simp only [Option.map_some, hthr, hcols, List.length_map, Sig.length_smul, vsum_smul, smul_sub, ih]
      split <;> rfl

theorem peelLoop_thr_congr (X : List Sig → Sig → Option (Sig × Bool)) (thr thr' : Rat) (cap : Option Nat) (x : Sig) :
    ∀ (fuel : Nat) (cols : List Sig) (proto : Sig),
      (∀ v ∈ (peelLoop X thr cap x fuel cols proto).1, decide (Sig.absSum v < thr) = decide (Sig.absSum v < thr')) →
      peelLoop X thr' cap x fuel cols proto = peelLoop X thr cap x fuel cols proto := by
  intro fuel
  induction fuel with
  | zero => intro cols proto _; rfl
  | succ fuel ih =>
    intro cols proto hall
    cases hXc : X cols proto with
    | none => rw [peelLoop_none hXc, peelLoop_none hXc]
    | some r =>
      obtain ⟨v, cont⟩ := r
      rw [peelLoop_some hXc] at hall
      -- the new column `v` is in the result, whether the loop goes on or not
      have hv : decide (Sig.absSum v < thr) = decide (Sig.absSum v < thr') := by
        refine hall v ?_
        split
        · exact peelLoop_prefix.subset (List.mem_append_right _ List.mem_cons_self)
        · exact List.mem_append_right _ List.mem_cons_self
      rw [peelLoop_some hXc, peelLoop_some hXc, ← hv]
      split
      · rw [if_pos ‹_›] at hall
        exact ih _ _ hall
      · rfl

/-! ### the Extrema-model envelopes (`extEnv`) as such an envelope oracle -/

theorem toOpt_smul (r : Extrema.EnvResult) :
    EnvResult.toOpt (Extrema.EnvResult.smul c r) = (EnvResult.toOpt r).map (Sig.smul c) := by
  cases r <;> rfl

theorem extEnv_smul (I : Extrema.Interp) (hI : I.Homogeneous) (hc : c ≠ 0) (w : Nat) (parab : Bool) :
    EnvSmul c (fun _ => extEnv I w parab) (fun _ => extEnv I w parab) := by
  intro _ h
  simp only [extEnv, envSmul, Extrema.interpEnvelope_smul' I hI hc, toOpt_smul, Extrema.EMode.under]
  split <;> rfl

end Sift
