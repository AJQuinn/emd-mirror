/- The outer sift loop `peelLoop` of EmdModel.Sift (C01, C03): the running residual, an invariant rule for the columns,
   the anatomy of a regular exit, what a cap does and how fuel adds up; then the same for a whole run, and the sift over
   `get_next_imf`. -/
import Proofs.Lemmas.Sift

namespace Sift

/-- the running residual `X - imf.sum(axis=1)` -/
def resid (x : Sig) (cols : List Sig) : Sig := Sig.sub x (Sig.vsum x.length cols)

theorem resid_nil (x : Sig) : resid x [] = x := by
  simp [resid, Sig.vsum, Sig.sub_zeros]

theorem resid_length (x : Sig) (cols : List Sig) (h : ∀ c ∈ cols, c.length = x.length) :
    (resid x cols).length = x.length := by
  simp [resid, Sig.length_vsum _ _ h]

theorem vsum_append_resid (x : Sig) (cols : List Sig) (h : ∀ c ∈ cols, c.length = x.length) :
    Sig.vsum x.length (cols ++ [resid x cols]) = x := by
  rw [Sig.vsum_append]
  exact Sig.add_sub_cancel _ _ (Sig.length_vsum _ _ h)

/-! ### the extractor contracts -/

/-- What completeness of the outer loop needs from the extraction of a layer, on signals of length `n`:
    it preserves the length, and "flag cleared" means "input returned unchanged". -/
structure PeelOK (X : List Sig → Sig → Option (Sig × Bool)) (n : Nat) : Prop where
  len : ∀ cols p c f, p.length = n → X cols p = some (c, f) → c.length = n
  stay : ∀ cols p c, X cols p = some (c, false) → c = p

/-- contract for a layer-indexed extractor (classic sift) -/
structure ExtractorOK (X : Nat → Sig → Option (Sig × Bool)) (n : Nat) : Prop where
  len : ∀ k p c f, p.length = n → X k p = some (c, f) → c.length = n
  stay : ∀ k p c, X k p = some (c, false) → c = p

section
variable {X : List Sig → Sig → Option (Sig × Bool)} {thr : Rat} {cap : Option Nat} {x : Sig}

/-! ### one layer -/

theorem peelLoop_zero (X : List Sig → Sig → Option (Sig × Bool)) (thr : Rat) (cap : Option Nat) (x : Sig)
    (cols : List Sig) (proto : Sig) : peelLoop X thr cap x 0 cols proto = (cols, .outOfFuel) := rfl

theorem peelLoop_none {fuel : Nat} {cols : List Sig} {proto : Sig} (h : X cols proto = none) :
    peelLoop X thr cap x (fuel + 1) cols proto = (cols, .raised) := by
  simp [peelLoop, h]

theorem peelLoop_some {fuel : Nat} {cols : List Sig} {proto c : Sig} {cont : Bool}
    (h : X cols proto = some (c, cont)) :
    peelLoop X thr cap x (fuel + 1) cols proto =
      if (cont && !(cap == some (cols.length + 1)) && !(decide (Sig.absSum c < thr))) = true
      then peelLoop X thr cap x fuel (cols ++ [c]) (resid x (cols ++ [c]))
      else (cols ++ [c], .done (!cont) (cap == some (cols.length + 1)) (decide (Sig.absSum c < thr))) := by
  simp [peelLoop, h, resid]

/-! ### a run of the loop from an arbitrary entry state -/

theorem peelLoop_inv {P : List Sig → Prop}
    (step : ∀ cols c f, P cols → X cols (resid x cols) = some (c, f) → P (cols ++ [c])) :
    ∀ (fuel : Nat) (cols : List Sig) (proto : Sig), proto = resid x cols → P cols →
      P (peelLoop X thr cap x fuel cols proto).1 := by
  intro fuel
  induction fuel with
  | zero => intro cols proto _ h; exact h
  | succ fuel ih =>
    intro cols proto hp h
    cases hX : X cols proto with
    | none => rw [peelLoop_none hX]; exact h
    | some r =>
      have h' := step cols r.1 r.2 h (hp ▸ hX)
      rw [peelLoop_some hX]
      split
      · exact ih _ _ rfl h'
      · exact h'

theorem peelLoop_done :
    ∀ (fuel : Nat) (cols : List Sig) (proto : Sig) {out : List Sig} {fl cp th : Bool},
      proto = resid x cols → peelLoop X thr cap x fuel cols proto = (out, .done fl cp th) →
      ∃ init c, out = init ++ [c] ∧ X init (resid x init) = some (c, !fl) ∧
        cp = (cap == some (init.length + 1)) ∧ th = decide (Sig.absSum c < thr) ∧
        (fl = true ∨ cp = true ∨ th = true) ∧ cols.length ≤ init.length := by
  intro fuel
  induction fuel with
  | zero => intro cols proto out fl cp th _ h; cases h
  | succ fuel ih =>
    intro cols proto out fl cp th hp h
    cases hx : X cols proto with
    | none => rw [peelLoop_none hx] at h; cases h
    | some r =>
      obtain ⟨c, cont⟩ := r
      rw [peelLoop_some hx] at h
      split at h
      · obtain ⟨init, c', h1, h2, h3, h4, h5, h6⟩ := ih _ _ rfl h
        exact ⟨init, c', h1, h2, h3, h4, h5, by simp at h6; omega⟩
      · next hc =>
        cases h
        refine ⟨cols, c, rfl, by rw [← hp, hx, Bool.not_not], rfl, rfl, ?_, Nat.le_refl _⟩
        -- hc : the loop condition `cont ∧ ¬cap ∧ ¬thr` is false
        simpa only [Bool.and_eq_true, Bool.not_eq_true', Classical.not_and_iff_not_or_not, Bool.not_eq_true,
          Bool.not_eq_false, or_assoc] using hc

theorem peelLoop_prefix {fuel : Nat} {cols : List Sig} : cols <+: (peelLoop X thr cap x fuel cols (resid x cols)).1 :=
  peelLoop_inv (P := (cols <+: ·)) (fun _ _ _ h _ => h.trans (List.prefix_append _ _)) fuel cols _ rfl
    (List.prefix_refl _)

theorem peelLoop_cols {fuel : Nat} {cols : List Sig} {proto : Sig} {out : List Sig} {e : SiftEnd}
    (hp : proto = resid x cols) (h : peelLoop X thr cap x fuel cols proto = (out, e)) :
    ∀ k, cols.length ≤ k → k < out.length →
      ∃ c f, out[k]? = some c ∧ X (out.take k) (resid x (out.take k)) = some (c, f) := by
  have key := peelLoop_inv (X := X) (thr := thr) (cap := cap) (x := x)
    (P := fun out => ∀ k, cols.length ≤ k → k < out.length →
      ∃ c f, out[k]? = some c ∧ X (out.take k) (resid x (out.take k)) = some (c, f))
    (by
      intro out c f ih hX k h1 h2
      rw [List.length_append, List.length_singleton] at h2
      rcases Nat.lt_succ_iff_lt_or_eq.mp h2 with hk | rfl
      · rw [List.getElem?_append_left hk, List.take_append_of_le_length (Nat.le_of_lt hk)]
        exact ih k h1 hk
      · rw [List.getElem?_concat_length, List.take_left]
        exact ⟨c, f, rfl, hX⟩)
    fuel cols proto hp (fun k h1 h2 => absurd h2 (Nat.not_lt.mpr h1))
  rwa [h] at key

theorem peelLoop_fuel_length {fuel : Nat} {cols : List Sig} {proto : Sig} {out : List Sig}
    (h : peelLoop X thr cap x fuel cols proto = (out, .outOfFuel)) : out.length = cols.length + fuel := by
  induction fuel generalizing cols proto with
  | zero => cases h; rfl
  | succ fuel ih =>
    cases hx : X cols proto with
    | none => rw [peelLoop_none hx] at h; cases h
    | some r =>
      rw [peelLoop_some hx] at h
      split at h
      · rw [ih h, List.length_append, List.length_singleton]; omega
      · cases h

theorem peelLoop_fuel_add (b : Nat) : ∀ (a : Nat) (cols : List Sig) (proto : Sig), proto = resid x cols →
    peelLoop X thr cap x (a + b) cols proto =
      match peelLoop X thr cap x a cols proto with
      | (out, .outOfFuel) => peelLoop X thr cap x b out (resid x out)
      | r => r := by
  intro a
  induction a with
  | zero => intro cols proto hp; rw [Nat.zero_add, hp]; rfl
  | succ a ih =>
    intro cols proto _
    rw [Nat.add_right_comm]
    cases hx : X cols proto with
    | none => rw [peelLoop_none hx, peelLoop_none hx]
    | some r =>
      rw [peelLoop_some hx, peelLoop_some hx]
      split
      · exact ih _ _ rfl
      · rfl

theorem peelLoop_fuel_mono {fuel fuel' : Nat} {cols : List Sig} {proto : Sig} (hp : proto = resid x cols)
    (h : fuel ≤ fuel') (hne : (peelLoop X thr cap x fuel cols proto).2 ≠ .outOfFuel) :
    peelLoop X thr cap x fuel' cols proto = peelLoop X thr cap x fuel cols proto := by
  obtain ⟨b, rfl⟩ := Nat.exists_eq_add_of_le h
  rw [peelLoop_fuel_add b fuel cols proto hp]
  split
  · next heq => rw [heq] at hne; exact absurd rfl hne
  · rfl

theorem peelLoop_done_fuel {fuel f : Nat} {cols out : List Sig} {proto : Sig} {fl cp th : Bool}
    (hp : proto = resid x cols) (h : peelLoop X thr cap x fuel cols proto = (out, .done fl cp th))
    (hf : out.length ≤ cols.length + f) : peelLoop X thr cap x f cols proto = (out, .done fl cp th) := by
  rcases Nat.le_total fuel f with hle | hle
  · exact (peelLoop_fuel_mono hp hle (by rw [h]; simp)).trans h
  · obtain ⟨b, rfl⟩ := Nat.exists_eq_add_of_le hle
    rw [peelLoop_fuel_add b f cols proto hp] at h
    split at h
    · next out' heq =>
      -- the `f` units ran out after `f` columns, and the regular exit appended another
      obtain ⟨init, c, rfl, _, _, _, _, hle⟩ := peelLoop_done b out' _ rfl h
      have := peelLoop_fuel_length heq
      simp at hf; omega
    · exact h

theorem peelLoop_cap_prefix {k fuel : Nat} {cols : List Sig} {proto : Sig} (h : cols.length < k) :
    (peelLoop X thr (some k) x fuel cols proto).1 = (peelLoop X thr none x fuel cols proto).1.take k := by
  induction fuel generalizing cols proto with
  | zero => exact (List.take_of_length_le (Nat.le_of_lt h)).symm
  | succ fuel ih =>
    cases hx : X cols proto with
    | none => rw [peelLoop_none hx, peelLoop_none hx]; exact (List.take_of_length_le (Nat.le_of_lt h)).symm
    | some r =>
      obtain ⟨c, cont⟩ := r
      have hlen : (cols ++ [c]).length = cols.length + 1 := by simp
      rw [peelLoop_some hx, peelLoop_some hx]
      by_cases hk : k = cols.length + 1
      · -- this column reaches the cap: the capped run stops; the uncapped one keeps `cols ++ [c]` as a prefix
        rw [if_neg (by simp [hk])]
        split
        · rw [hk, ← hlen]
          exact List.prefix_iff_eq_take.mp peelLoop_prefix
        · dsimp only; exact (List.take_of_length_le (by omega)).symm
      · -- the cap plays no part in this layer
        rw [show (some k == some (cols.length + 1)) = ((none : Option Nat) == some (cols.length + 1)) by simp [hk]]
        split
        · exact ih (by omega)
        · dsimp only; exact (List.take_of_length_le (by omega)).symm

theorem peelLoop_le_cap {k fuel : Nat} {cols : List Sig} {proto : Sig} (h : cols.length < k) :
    (peelLoop X thr (some k) x fuel cols proto).1.length ≤ k := by
  rw [peelLoop_cap_prefix h, List.length_take]
  exact Nat.min_le_left _ _

/-! ### a whole run: `peelLoop … [] x` — `maskSift`, `siftIx` and `sift` unfold to it -/

theorem peel_cols {fuel : Nat} {out : List Sig} {e : SiftEnd} (h : peelLoop X thr cap x fuel [] x = (out, e))
    (k : Nat) (hk : k < out.length) :
    ∃ c f, out[k]? = some c ∧ X (out.take k) (resid x (out.take k)) = some (c, f) :=
  peelLoop_cols (resid_nil x).symm h k (Nat.zero_le k) hk

/-- `hlen` is the `len` field of `PeelOK` / `ExtractorOK`; the `stay` field is not needed -/
theorem peel_lengths
    (hlen : ∀ cols p c f, p.length = x.length → X cols p = some (c, f) → c.length = x.length) (fuel : Nat) :
    ∀ c ∈ (peelLoop X thr cap x fuel [] x).1, c.length = x.length := by
  refine peelLoop_inv (P := fun out => ∀ c ∈ out, c.length = x.length) ?_ fuel [] x (resid_nil x).symm (by simp)
  intro out c f ih hX
  exact List.forall_mem_append.mpr ⟨ih, by simpa using hlen _ _ c f (resid_length x out ih) hX⟩

theorem peel_sum
    (hlen : ∀ cols p c f, p.length = x.length → X cols p = some (c, f) → c.length = x.length)
    {fuel : Nat} {init : List Sig} {e : SiftEnd} (h : peelLoop X thr cap x fuel [] x = (init ++ [resid x init], e)) :
    Sig.vsum x.length (init ++ [resid x init]) = x := by
  have hl := peel_lengths (thr := thr) (cap := cap) hlen fuel
  rw [h] at hl
  exact vsum_append_resid x init fun d hd => hl d (by simp [hd])

theorem peel_done {fuel : Nat} {out : List Sig} {fl cp th : Bool}
    (h : peelLoop X thr cap x fuel [] x = (out, .done fl cp th)) :
    ∃ init c, out = init ++ [c] ∧ X init (resid x init) = some (c, !fl) ∧
      cp = (cap == some (init.length + 1)) ∧ th = decide (Sig.absSum c < thr) ∧
      (fl = true ∨ cp = true ∨ th = true) :=
  let ⟨init, c, h1, h2, h3, h4, h5, _⟩ := peelLoop_done fuel [] x (resid_nil x).symm h
  ⟨init, c, h1, h2, h3, h4, h5⟩

end

/-! ### the classic sift: extraction indexed by the layer number -/

section
variable {X : Nat → Sig → Option (Sig × Bool)} {thr : Rat} {cap : Option Nat} {x : Sig} {fuel : Nat} {out : List Sig}
  {e : SiftEnd}

theorem siftLoop_cols {cols : List Sig} {proto : Sig} (hp : proto = resid x cols)
    (h : siftLoop X thr cap x fuel cols proto = (out, e)) :
    ∀ k, cols.length ≤ k → k < out.length →
      ∃ c f, out[k]? = some c ∧ X k (resid x (out.take k)) = some (c, f) := by
  intro k h1 h2
  obtain ⟨c, f, hc, hx⟩ := peelLoop_cols hp h k h1 h2
  exact ⟨c, f, hc, by simpa [Nat.min_eq_left (Nat.le_of_lt h2)] using hx⟩

theorem siftIx_cols (h : siftIx X thr cap x fuel = (out, e)) :
    ∀ k, k < out.length → ∃ c f, out[k]? = some c ∧ X k (resid x (out.take k)) = some (c, f) :=
  fun k hk => siftLoop_cols (resid_nil x).symm h k (Nat.zero_le k) hk

end

/-! ### the sift over `get_next_imf`, for every option record

  With an energy threshold the continue flag is also cleared when the energy rule fires (`flag_iff_energy'`), so a sift
  that ends by the flag is complete OR was cut short by the energy rule on its last extraction. -/

/-- the energy rule fired on the LAST extraction of a sift of `x` that returned `cols` -/
def LastEnergyFires (D : Sig → Sig → Rat) (o : ImfOpts) (x : Sig) (cols : List Sig) : Prop :=
  ∃ init c, cols = init ++ [c] ∧ EnergyFires D o (resid x init) c

variable {E : Nat → Sig → Env} {D : Sig → Sig → Rat} {o : ImfOpts} {thr : Rat} {cap : Option Nat} {x : Sig}
  {fuel : Nat} {cols : List Sig} {cp th : Bool}

theorem extractorIx_imf {p c : Sig} {f : Bool} (h : extractorIx E D o p = some (c, f)) :
    getNextImfIx E D o p = .imf c f := by
  unfold extractorIx at h
  split at h
  · cases h; assumption
  · cases h

theorem envOf_none_iff (I : Nat → Sig → Sig × Sig) (k : Nat) (h : Sig) :
    ((envOf I k h).1 = none ∨ (envOf I k h).2 = none) ↔ (peaks h < 2 ∨ troughs h < 2) := by
  simp only [envOf, ite_eq_left_iff, reduceCtorEq, imp_false, Decidable.not_not]

theorem extractorIx_len (hE : EnvLen E) {p c : Sig} {f : Bool} {n : Nat} (hp : p.length = n)
    (h : extractorIx E D o p = some (c, f)) : c.length = n :=
  (imf_length hE (extractorIx_imf h)).trans hp

theorem sift_gni_flag_exit (h : sift (extractorIx E D o) thr cap x fuel = (cols, .done true cp th)) :
    ∃ init c, cols = init ++ [c] ∧
      ((c = resid x init ∧ ((E 0 c).1 = none ∨ (E 0 c).2 = none)) ∨ EnergyFires D o (resid x init) c) := by
  obtain ⟨init, c, rfl, hc, _⟩ := peel_done h
  refine ⟨init, c, rfl, ?_⟩
  rcases (flag_iff_energy' (extractorIx_imf hc)).mp rfl with ⟨hcx, hn⟩ | hfire
  · exact Or.inl ⟨hcx, hcx ▸ hn⟩
  · exact Or.inr hfire

end Sift
