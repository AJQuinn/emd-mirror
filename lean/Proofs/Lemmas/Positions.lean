/- `np.where(p(l))[0]` — the positions of the elements of a list that satisfy a predicate — and `np.max` as
   a fold, in terms of core list functions.  The offset-accumulating loops of the models (`Maps.whereFrom`,
   `Maps.selectedFrom`, `Container.indicesFrom`) are instances of `List.positions`; the values zipped with the selected elements
   are the values at those positions (`filter_zip_positions`).  Also: increasing lists with the same
   members are equal (`eq_of_sorted_of_mem_iff`), and predicates that agree on the members have the same `any` (`any_congr_mem`). -/

namespace List
variable {α : Type}

/-- positions, counted from `off`, of the elements satisfying `p` -/
def positions (p : α → Bool) (off : Nat) (l : List α) : List Nat :=
  ((l.zipIdx off).filter fun q => p q.1).map (·.2)

theorem positions_cons (p : α → Bool) (off : Nat) (a : α) (l : List α) :
    positions p off (a :: l) = if p a then off :: positions p (off + 1) l else positions p (off + 1) l := by
  simp only [positions, zipIdx_cons, filter_cons]
  split <;> rfl

theorem mem_positions {p : α → Bool} {off : Nat} {l : List α} {i : Nat} :
    i ∈ positions p off l ↔ off ≤ i ∧ ∃ x, l[i - off]? = some x ∧ p x = true := by
  simp only [positions, mem_map, mem_filter, Prod.exists, mem_zipIdx_iff_le_and_getElem?_sub]
  constructor
  · rintro ⟨x, j, ⟨⟨h1, h2⟩, h3⟩, rfl⟩; exact ⟨h1, x, h2, h3⟩
  · rintro ⟨h1, x, h2, h3⟩; exact ⟨x, i, ⟨⟨h1, h2⟩, h3⟩, rfl⟩

theorem positions_sublist (p : α → Bool) (off : Nat) (l : List α) :
    (positions p off l).Sublist (range' off l.length) := by
  rw [← zipIdx_map_snd off l]
  exact filter_sublist.map _

theorem positions_sorted (p : α → Bool) (off : Nat) (l : List α) : (positions p off l).Pairwise (· < ·) :=
  (pairwise_lt_range' 1).sublist (positions_sublist p off l)

theorem positions_nodup (p : α → Bool) (off : Nat) (l : List α) : (positions p off l).Nodup :=
  (nodup_range' 1).sublist (positions_sublist p off l)

theorem length_positions (p : α → Bool) (off : Nat) (l : List α) : (positions p off l).length = l.countP p := by
  induction l generalizing off with
  | nil => rfl
  | cons a t ih => rw [positions_cons, countP_cons]; split <;> simp [ih]

theorem positions_append (p : α → Bool) (off : Nat) (a b : List α) :
    positions p off (a ++ b) = positions p off a ++ positions p (off + a.length) b := by
  simp [positions, zipIdx_append]

theorem positions_eq_nil (p : α → Bool) (off : Nat) (l : List α) (h : ∀ x ∈ l, p x = false) :
    positions p off l = [] := by
  rw [positions, map_eq_nil_iff, filter_eq_nil_iff]
  intro q hq
  rw [h q.1 (mem_of_getElem? (mem_zipIdx_iff_le_and_getElem?_sub.mp hq).2)]
  exact Bool.false_ne_true

theorem positions_replicate (p : α → Bool) (off n : Nat) (x : α) (h : p x = true) :
    positions p off (replicate n x) = range' off n := by
  rw [positions, filter_eq_self.mpr, zipIdx_map_snd, length_replicate]
  intro q hq
  rw [(mem_replicate.mp (mem_of_getElem? (mem_zipIdx_iff_le_and_getElem?_sub.mp hq).2)).2, h]

theorem eq_of_sorted_of_mem_iff {l₁ l₂ : List Nat} (h₁ : l₁.Pairwise (· < ·)) (h₂ : l₂.Pairwise (· < ·))
    (h : ∀ a, a ∈ l₁ ↔ a ∈ l₂) : l₁ = l₂ :=
  Perm.eq_of_pairwise (fun _ _ _ _ hab hba => absurd hab (Nat.lt_asymm hba)) h₁ h₂
    ((perm_ext_iff_of_nodup (h₁.imp Nat.ne_of_lt) (h₂.imp Nat.ne_of_lt)).mpr h)

theorem positions_eq_filter (p : α → Bool) (off : Nat) (l : List α) :
    positions p off l = (range' off l.length).filter fun j => (l[j - off]?).any p :=
  eq_of_sorted_of_mem_iff (positions_sorted p off l) (Pairwise.filter _ pairwise_lt_range') fun i => by
    rw [mem_positions, mem_filter, mem_range'_1, Option.any_eq_true]
    refine ⟨fun ⟨h, x, hx, hp⟩ => ⟨⟨h, ?_⟩, x, hx, hp⟩, fun ⟨h, x, hx, hp⟩ => ⟨h.1, x, hx, hp⟩⟩
    have := (getElem?_eq_some_iff.mp hx).1
    omega

theorem positions_succ (p : α → Bool) (off : Nat) (l : List α) :
    positions p (off + 1) l = (positions p off l).map (· + 1) := by
  simp [positions, zipIdx_succ, filter_map, Function.comp_def]

theorem positions_map {β : Type} (p : β → Bool) (f : α → β) (off : Nat) (l : List α) :
    positions p off (l.map f) = positions (fun a => p (f a)) off l := by
  induction l generalizing off with
  | nil => rfl
  | cons a t ih => simp only [map_cons, positions_cons, ih]

theorem positions_rank_append (p : α → Bool) (a b : List α) (x : α) (hp : p x = true) :
    (positions p 0 (a ++ x :: b))[a.countP p]? = some a.length := by
  rw [positions_append, positions_cons, if_pos hp, getElem?_append_right (by simp [length_positions]),
    length_positions]
  simp

theorem positions_getElem?_eq_some {p : α → Bool} {l : List α} {m i : Nat} :
    (positions p 0 l)[m]? = some i ↔ (∃ x, l[i]? = some x ∧ p x = true) ∧ (l.take i).countP p = m := by
  have rank : ∀ x, l[i]? = some x → p x = true → (positions p 0 l)[(l.take i).countP p]? = some i := by
    intro x hx hp
    obtain ⟨hi, rfl⟩ := getElem?_eq_some_iff.mp hx
    have := positions_rank_append p (l.take i) (l.drop (i + 1)) l[i] hp
    simpa [Nat.min_eq_left (Nat.le_of_lt hi)] using this
  constructor
  · intro h
    obtain ⟨-, x, hx, hp⟩ := mem_positions.mp (mem_of_getElem? h)
    refine ⟨⟨x, by simpa using hx, hp⟩, ?_⟩
    have hm := (getElem?_eq_some_iff.mp h).1
    have := rank x (by simpa using hx) hp
    rw [← h] at this
    exact ((getElem?_inj (by omega) (positions_nodup p 0 l)).mp this.symm).symm
  · rintro ⟨⟨x, hx, hp⟩, rfl⟩
    exact rank x hx hp

/-- `vals[np.where(p(l))[0]]` without bounds checks: the values zipped with the elements satisfying `p` are the values
    at the positions of those elements (values missing at the end are dropped on both sides) -/
theorem filter_zip_positions {β : Type} (p : α → Bool) (l : List α) (vals : List β) :
    ((l.zip vals).filter fun q => p q.1).map (·.2) = (positions p 0 l).filterMap (vals[·]?) := by
  induction l generalizing vals with
  | nil => rfl
  | cons a t ih =>
    cases vals with
    | nil => simp
    | cons v vs =>
      rw [positions_cons, positions_succ, zip_cons_cons, filter_cons]
      split <;> simp [ih vs, filterMap_map, Function.comp_def]

theorem filter_zip_positions' {β : Type} (p : α → Bool) (l : List α) (vals : List β) :
    ((vals.zip l).filter fun q => p q.2).map (·.1) = (positions p 0 l).filterMap (vals[·]?) := by
  rw [← filter_zip_positions, zip_eq_zipWith, zipWith_comm, ← map_uncurry_zip_eq_zipWith, filter_map, map_map]
  rfl

theorem filterMap_getElem?_of_lt {β : Type} (vals : List β) (d : β) (inds : List Nat) (h : ∀ i ∈ inds, i < vals.length) :
    inds.filterMap (vals[·]?) = inds.map fun i => vals[i]?.getD d := by
  induction inds with
  | nil => rfl
  | cons i t ih =>
    have := h i (by simp)
    simp [getElem?_eq_getElem this, ih fun j hj => h j (by simp [hj])]

theorem any_congr_mem (l : List α) (f g : α → Bool) (h : ∀ i ∈ l, f i = g i) : l.any f = l.any g := by
  rw [Bool.eq_iff_iff, any_eq_true, any_eq_true]
  exact exists_congr fun i => and_congr_right fun hi => by rw [h i hi]

theorem foldl_max_spec [Max α] [LE α] [Std.IsLinearOrder α] [Std.LawfulOrderMax α] (a : α) (l : List α) :
    l.foldl max a ∈ a :: l ∧ ∀ b ∈ a :: l, b ≤ l.foldl max a :=
  max?_eq_some_iff.mp max?_cons'

/-- `Maps.nLabels v = n` and `Container.nLabels v = n` with the definitions unfolded: `np.max(v) + 1`, the fold starting
    from `-1` ("no label") -/
theorem foldl_max_succ_toNat (v : List Int) (n : Nat) (hr : ∀ l ∈ v, l < (n : Int)) (ho : ∀ k < n, (k : Int) ∈ v) :
    (v.foldl max (-1) + 1).toNat = n := by
  obtain ⟨hmem, hge⟩ := foldl_max_spec (-1) v
  have hlt : v.foldl max (-1) < n := by
    rcases mem_cons.mp hmem with e | hx
    · omega
    · exact hr _ hx
  cases n with
  | zero => have := hge _ (mem_cons_self ..); omega
  | succ k => have := hge _ (mem_cons_of_mem _ (ho k (by omega))); omega

end List
