/- The sift variants of EmdModel.Sift (C03): the lowered cap of mask_sift, the width of the ensemble mean, the
   counter loop of complete_ensemble_sift (an invariant rule), the zero-padded blocks of sift_second_layer and the
   loop of mask_sift_second_layer. -/
import Proofs.Lemmas.SiftOuter
import Proofs.Lemmas.Positions

namespace Sift

/-! ### mask_sift cap -/

theorem effCap_eq (cap : Nat) (nf : Option Nat) : effCap cap nf = min cap (nf.getD cap) := by
  unfold effCap
  cases nf with
  | none => simp
  | some m => simp only [Option.getD_some]; split <;> omega

theorem effCap_le_cap (cap : Nat) (nf : Option Nat) : effCap cap nf ≤ cap := by
  rw [effCap_eq]; exact Nat.min_le_left _ _

theorem effCap_le_nfreqs (cap m : Nat) : effCap cap (some m) ≤ m := by
  rw [effCap_eq]; exact Nat.min_le_right _ _

theorem effCap_pos (cap : Nat) (nf : Option Nat) (hc : 0 < cap) (hm : ∀ m, nf = some m → 0 < m) :
    0 < effCap cap nf := by
  rw [effCap_eq]
  cases nf with
  | none => simpa using hc
  | some m => exact Nat.lt_min.mpr ⟨hc, hm m rfl⟩

theorem effCap_min (k K : Nat) (nf : Option Nat) (h : k ≤ K) : min k (effCap K nf) = effCap k nf := by
  rw [effCap_eq, effCap_eq, ← Nat.min_assoc, Nat.min_eq_left h]
  cases nf with
  | none => exact (Nat.min_eq_left h).trans (Nat.min_self k).symm
  | some m => rfl

/-! ### ensemble averaging -/

/-- `max(r.shape[1] for r in res)` of `ensemble_sift` -/
theorem maxWidth_eq (members : List (List Sig)) : maxWidth members = (members.map List.length).foldl max 0 := by
  rw [List.foldl_map]
  exact congrArg (fun f => members.foldl f 0) (funext fun w => funext fun m => by split <;> omega)

theorem maxWidth_le_iff (members : List (List Sig)) (k : Nat) :
    maxWidth members ≤ k ↔ ∀ m ∈ members, m.length ≤ k := by
  obtain ⟨hmem, hge⟩ := List.foldl_max_spec 0 (members.map List.length)
  rw [maxWidth_eq]
  constructor
  · intro h m hm
    exact Nat.le_trans (hge _ (List.mem_cons_of_mem _ (List.mem_map_of_mem hm))) h
  · intro h
    rcases List.mem_cons.mp hmem with e | e
    · omega
    · obtain ⟨m, hm, e⟩ := List.mem_map.mp e
      exact e ▸ h m hm

theorem ensembleCols_length (n : Nat) (members : List (List Sig)) :
    (ensembleCols n members).length = maxWidth members := by
  simp [ensembleCols]

theorem colOr_length (n : Nat) (m : List Sig) (j : Nat) (h : ∀ c ∈ m, c.length = n) :
    (colOr n m j).length = n := Sig.length_getD_zeros h j

theorem meanOf_length (n : Nat) (vs : List Sig) (h : ∀ v ∈ vs, v.length = n) : (meanOf n vs).length = n := by
  simp [meanOf, Sig.length_vsum n vs h]

/-! ### complete_ensemble_sift -/

section
variable {Nx : List Sig → Sig → Sig} {thr : Rat} {cap : Option Nat} {x : Sig} {P : List Sig → Prop}

/-- `step` may assume `cap ≠ some cols.length`: the loop goes round again only while the cap is not reached -/
theorem ceemdLoop_inv (step : ∀ cols, P cols → cap ≠ some cols.length → P (cols ++ [Nx cols (resid x cols)])) :
    ∀ (fuel : Nat) (cols : List Sig), P cols → cap ≠ some cols.length → P (ceemdLoop Nx thr cap x fuel cols).1 := by
  intro fuel
  induction fuel with
  | zero => intro cols h _; exact h
  | succ fuel ih =>
    intro cols h hc
    have h' := step cols h hc
    unfold ceemdLoop
    dsimp only
    split
    · exact h'
    · next hgo => exact ih _ h' fun hcap => hgo (by simp [hcap])

theorem ceemd_inv (h0 : P [Nx [] x])
    (step : ∀ cols, P cols → cap ≠ some cols.length → P (cols ++ [Nx cols (resid x cols)])) (fuel : Nat) :
    P (ceemd Nx thr cap x fuel).1 := by
  unfold ceemd
  cases cap with
  | none => exact ceemdLoop_inv step fuel _ h0 (by simp)
  | some k =>
    dsimp only
    split
    · exact h0
    · next hk => exact ceemdLoop_inv step fuel _ h0 fun h => hk (Nat.le_of_eq (Option.some.inj h))

end

/-! ### second layer -/

section
variable {n k : Nat} {cols : List Sig}

theorem padCols_length : (padCols n k cols).length = k := by
  simp [padCols]

theorem padCols_col_length (h : ∀ c ∈ cols, c.length = n) :
    ∀ c ∈ padCols n k cols, c.length = n := by
  intro c hc
  simp only [padCols, List.mem_map, List.mem_range] at hc
  obtain ⟨j, _, rfl⟩ := hc
  exact colOr_length n cols j h

theorem padCols_getElem {j : Nat} (hj : j < cols.length) (hk : j < k) :
    (padCols n k cols)[j]? = cols[j]? := by
  simp [padCols, colOr, hk, List.getElem?_eq_getElem hj]

theorem padCols_zero {j : Nat} (hj : cols.length ≤ j) (hk : j < k) :
    (padCols n k cols)[j]? = some (Sig.zeros n) := by
  simp [padCols, colOr, hk, List.getElem?_eq_none hj]

end

theorem cap_getD_pos {cap : Option Nat} {n i : Nat} (hc : cap ≠ some 0) (hi : i < n) : 0 < cap.getD n := by
  cases cap with
  | none => exact Nat.zero_lt_of_lt hi
  | some k => exact Nat.pos_of_ne_zero fun h => hc (h ▸ rfl)

theorem secondLayer_blocks {S : Nat → Sig → List Sig} {n : Nat} {ia : List Sig} {cap : Option Nat}
    (hS : ∀ col ∈ ia, ∀ c ∈ S (cap.getD ia.length) col, c.length = n) :
    ∀ blk ∈ secondLayer S n ia cap, blk.length = cap.getD ia.length ∧ ∀ c ∈ blk, c.length = n := by
  intro blk hb
  simp only [secondLayer, List.mem_map] at hb
  obtain ⟨col, hcol, rfl⟩ := hb
  exact ⟨padCols_length, padCols_col_length (hS col hcol)⟩

/-! ### mask second layer -/

section
variable {MS : Nat → Nat → Sig → Option (List Sig)} {n k nfreqs : Nat}

theorem maskSecondLoop_cons {s : Nat} {col : Sig} {cols : List Sig} (rest : List Sig) (hs : s < nfreqs)
    (hms : MS s k col = some cols) :
    maskSecondLoop MS n k nfreqs s (col :: rest) =
      match maskSecondLoop MS n k nfreqs (s + 1) rest with
      | .ok bs => .ok (padCols n k cols :: bs)
      | e => e := by
  rw [maskSecondLoop, if_neg (Nat.not_le.mpr hs), hms]; rfl

theorem maskSecondLoop_ok :
    ∀ (l : List Sig) (s : Nat) (bs : List (List Sig)), maskSecondLoop MS n k nfreqs s l = .ok bs →
      bs.length = l.length ∧ ∀ j col, l[j]? = some col →
        s + j < nfreqs ∧ ∃ cols, MS (s + j) k col = some cols ∧ bs[j]? = some (padCols n k cols) := by
  intro l
  induction l with
  | nil => intro s bs h; cases h; simp
  | cons col rest ih =>
    intro s bs h
    unfold maskSecondLoop at h
    split at h
    · cases h
    · next hlt =>
      split at h
      · cases h
      · next cols hms =>
        split at h
        · next bs' hrec =>
          cases h
          obtain ⟨h1, h2⟩ := ih (s + 1) bs' hrec
          refine ⟨congrArg (· + 1) h1, fun j c hj => ?_⟩
          cases j with
          | zero => cases hj; exact ⟨Nat.not_le.mp hlt, cols, hms, rfl⟩
          | succ j => rw [← Nat.add_assoc, Nat.add_right_comm]; exact h2 j c hj
        · next e hne => exact (hne bs h).elim

theorem maskSecondLoop_total :
    ∀ (l : List Sig) (s : Nat), (∀ j col, l[j]? = some col → s + j < nfreqs ∧ MS (s + j) k col ≠ none) →
      ∃ bs, maskSecondLoop MS n k nfreqs s l = .ok bs := by
  intro l
  induction l with
  | nil => intro s _; exact ⟨[], rfl⟩
  | cons col rest ih =>
    intro s h
    obtain ⟨h0, hc⟩ : s < nfreqs ∧ MS s k col ≠ none := h 0 col rfl
    obtain ⟨cols, hms⟩ := Option.ne_none_iff_exists'.mp hc
    obtain ⟨bs, hb⟩ := ih (s + 1) fun j c hj => by rw [Nat.add_right_comm]; exact h (j + 1) c hj
    exact ⟨_, by rw [maskSecondLoop_cons rest h0 hms, hb]⟩

theorem maskSecondLoop_exhausted :
    ∀ (l : List Sig) (s : Nat), s ≤ nfreqs → nfreqs < s + l.length →
      (∀ j col, s + j < nfreqs → l[j]? = some col → MS (s + j) k col ≠ none) →
      maskSecondLoop MS n k nfreqs s l = .indexError nfreqs := by
  intro l
  induction l with
  | nil => intro s h1 h2 _; exact absurd h2 (Nat.not_lt.mpr h1)
  | cons col rest ih =>
    intro s h1 h2 hm
    by_cases hs : nfreqs ≤ s
    · rw [maskSecondLoop, if_pos hs, Nat.le_antisymm hs h1]
    · obtain ⟨cols, hms⟩ := Option.ne_none_iff_exists'.mp (hm 0 col (Nat.not_le.mp hs) rfl)
      rw [maskSecondLoop_cons rest (Nat.not_le.mp hs) hms,
        ih (s + 1) (Nat.not_le.mp hs) (by rw [Nat.add_right_comm]; exact h2)
          fun j c hj hl => by rw [Nat.add_right_comm] at hj ⊢; exact hm (j + 1) c hj hl]

/-! ### a whole second-layer run (`maskSecondLayer` starts the loop at column 0) -/

theorem maskSecondLayer_ok {ia : List Sig} {cap : Option Nat} {blocks : List (List Sig)}
    (h : maskSecondLayer MS n ia nfreqs cap = .ok blocks) :
    blocks.length = ia.length ∧ ia.length ≤ nfreqs ∧
    ∀ i col, ia[i]? = some col →
      ∃ cols, MS i (cap.getD ia.length) col = some cols ∧ blocks[i]? = some (padCols n (cap.getD ia.length) cols) := by
  obtain ⟨h1, h2⟩ := maskSecondLoop_ok ia 0 blocks h
  refine ⟨h1, Nat.le_of_not_lt fun hlt => ?_, fun i col hi => ?_⟩
  · -- a column with index `nfreqs` would have had no mask left
    have := (h2 nfreqs _ (List.getElem?_eq_getElem hlt)).1
    omega
  · have := (h2 i col hi).2
    rwa [Nat.zero_add] at this

theorem maskSecondLayer_blocks {ia : List Sig} {cap : Option Nat} {blocks : List (List Sig)}
    (h : maskSecondLayer MS n ia nfreqs cap = .ok blocks)
    (hS : ∀ i col cols, ia[i]? = some col → MS i (cap.getD ia.length) col = some cols → ∀ c ∈ cols, c.length = n) :
    ∀ blk ∈ blocks, blk.length = cap.getD ia.length ∧ ∀ c ∈ blk, c.length = n := by
  obtain ⟨h1, _, h3⟩ := maskSecondLayer_ok h
  intro blk hb
  obtain ⟨j, hj⟩ := List.getElem?_of_mem hb
  have hjl : j < ia.length := h1 ▸ (List.getElem?_eq_some_iff.mp hj).1
  obtain ⟨cols, e1, e2⟩ := h3 j ia[j] (List.getElem?_eq_getElem hjl)
  obtain rfl : padCols n _ cols = blk := Option.some.inj (e2.symm.trans hj)
  exact ⟨padCols_length, padCols_col_length (hS _ _ _ (List.getElem?_eq_getElem hjl) e1)⟩

end

theorem maskSiftCol_some {M : Nat → List Sig → Sig → Option (Sig × Bool)} {thr : Rat} {nfreqs fuel ii k : Nat}
    {col : Sig} {cols : List Sig} (h : maskSiftCol M thr nfreqs fuel ii k col = some cols) :
    cols = (maskSift (M ii) thr k (some (nfreqs - ii)) col fuel).1 := by
  unfold maskSiftCol at h
  split at h
  · cases h
  · next c e _ heq => simp only [Option.some.injEq] at h; subst h; rw [heq]

end Sift
