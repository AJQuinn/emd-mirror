/- Link between the cycle detector's model (C12) and the well-formedness hypothesis of C16:
   every label vector produced by `paint (cvSegs …)` is `WF`, with K = its number of labelled cycles, which is also
   what `np.max + 1` finds in it. -/
import Proofs.Lemmas.Cycles
import Proofs.Lemmas.MapsIndex

namespace Maps
open Cycles

theorem paint_cvSegs_wf {α : Type} {w : α → α → Bool} {acc : List α → Bool} {xs : List α} :
    WF (paint (cvSegs w acc xs)) (nCycles (cvSegs w acc xs)) :=
  wf_of_blocks paint_values fun k hk => by
    obtain ⟨pre, run, post, -, hne, hpaint, hpre, hpost⟩ := cvSegs_label_block k hk
    exact ⟨paint pre, paint post, run.length, List.length_pos_iff.mpr hne, hpaint, hpre, hpost⟩

theorem nLabels_paint {α : Type} {w : α → α → Bool} {acc : List α → Bool} {xs : List α} :
    nLabels (paint (cvSegs w acc xs)) = nCycles (cvSegs w acc xs) :=
  nLabels_eq (fun l hl => (paint_cvSegs_wf.range l hl).2) paint_cvSegs_wf.occurs

end Maps
