/- The Sift model (C01, C03, C04) instantiated with the envelopes of the Extrema model (C05): the two extrema counters
   agree, and for pad width ≥ 1 the Extrema envelopes are undefined exactly where `Sift.envOf` assumes, so the
   sift-level theorems hold for the pipeline get_padded_extrema → interp_envelope → get_next_imf → sift with only the
   interpolant abstract. -/
import Proofs.C05
import Proofs.Lemmas.ExtEnv

namespace Compose
open Sift

theorem peaksFrom_length (i : Nat) (l : List Rat) :
    (Extrema.peaksFrom i l).length = Sift.peaks l := by
  fun_induction Extrema.peaksFrom i l with
  | case1 i a b c t h ih => rw [List.length_cons, ih, Sift.peaks, if_pos h, Nat.add_comm]
  | case2 i a b c t h ih => rw [ih, Sift.peaks, if_neg h, Nat.zero_add]
  | case3 i l h =>
    unfold Sift.peaks
    split
    · exact absurd rfl (h _ _ _ _)
    · rfl

theorem peaks_eq (h : Sig) : Sift.peaks h = (Extrema.findPeaks h).length := by
  unfold Extrema.findPeaks; exact (peaksFrom_length 0 h).symm

theorem troughs_eq (h : Sig) : Sift.troughs h = (Extrema.findTroughs h).length := by
  unfold Sift.troughs Extrema.findTroughs; exact peaks_eq _

/-- values of the composed pipeline's envelopes (empty where there is none) -/
def envVals (I : Extrema.Interp) (w : Nat) (parab : Bool) : Nat → Sig → Sig × Sig := fun _ h =>
  ((EnvResult.toOpt (Extrema.interpEnvelope I .upper w parab h)).getD [],
   (EnvResult.toOpt (Extrema.interpEnvelope I .lower w parab h)).getD [])

/-- For pad width ≥ 1 `interp_envelope` never raises, so the totalisation `toOpt` (raising ↦ "no envelope")
    answers `none` exactly when `interp_envelope` returned None, -/
theorem toOpt_none_iff {I : Extrema.Interp} {em : Extrema.EMode} {w : Nat} (hw : 1 ≤ w) {parab : Bool} {h : Sig} :
    EnvResult.toOpt (Extrema.interpEnvelope I em w parab h) = none ↔ Extrema.interpEnvelope I em w parab h = .none := by
  have nr := C05.interpEnvelope_never_raises I em w hw parab h
  cases hr : Extrema.interpEnvelope I em w parab h with
  | none => simp [EnvResult.toOpt]
  | valueError => exact absurd hr nr.1
  | fuel => exact absurd hr nr.2
  | ok env l e => simp [EnvResult.toOpt]

/-- … which it does on fewer than two extrema of the kind -/
theorem toOpt_none_iff_peaks {I : Extrema.Interp} {em : Extrema.EMode} {w : Nat} (hw : 1 ≤ w) {parab : Bool} {h : Sig} :
    EnvResult.toOpt (Extrema.interpEnvelope I em w parab h) = none ↔
      (Extrema.findPeaks (Extrema.modeSig em.toMode h)).length < 2 :=
  (toOpt_none_iff hw).trans (C05.interpEnvelope_none_iff I em w parab h)

/-- an option that is `none` exactly when `p` holds, written the way `envOf` writes it -/
theorem opt_eq_ite {α : Type} {o : Option α} {p : Prop} [Decidable p] (h : o = none ↔ p) (d : α) :
    o = if p then none else some (o.getD d) := by
  cases o <;> simp_all

/-- For pad width ≥ 1 the envelopes of the Extrema model are exactly of the form assumed by the
    Sift model: undefined iff fewer than two extrema of their kind, otherwise some values. -/
theorem extEnv_eq_envOf (I : Extrema.Interp) (w : Nat) (hw : 1 ≤ w) (parab : Bool) :
    (fun (_ : Nat) => extEnv I w parab) = envOf (envVals I w parab) := by
  funext k h
  simp only [extEnv, envOf, envVals, peaks_eq, troughs_eq]
  congr 1
  · exact opt_eq_ite (toOpt_none_iff_peaks hw) []
  · exact opt_eq_ite (toOpt_none_iff_peaks hw) []

end Compose
