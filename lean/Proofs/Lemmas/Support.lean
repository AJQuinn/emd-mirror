/- Lemmas about EmdModel.Support: the normalisers by cases on the rank, `ensure_equal_dims` as a three-way verdict
   (IndexError / accepted / ValueError) in closed form, the loop over `to_check`. -/
import EmdModel.Support

namespace Support

theorem all_one_iff (l : List Nat) : l.all (· == 1) = true ↔ ∃ k, l = List.replicate k 1 := by
  simp [List.eq_replicate_iff]

theorem numel_cons (a : Nat) (l : Shape) : numel (a :: l) = a * numel l := rfl

theorem numel_replicate_one (k : Nat) : numel (List.replicate k 1) = 1 := by
  induction k with
  | zero => rfl
  | succ k ih => rw [List.replicate_succ, numel_cons, ih]

theorem numel_append_one (l : Shape) : numel (l ++ [1]) = numel l := by
  induction l with
  | nil => rfl
  | cons a l ih => rw [List.cons_append, numel_cons, numel_cons, ih]

theorem ite_ok_eq_ok_iff {α : Type} {c : Prop} [Decidable c] {a t : α} {e : Err} :
    (if c then .ok a else .error e : Except Err α) = .ok t ↔ c ∧ t = a := by
  by_cases h : c <;> simp [h, eq_comm]

theorem ite_ok_eq_error_iff {α : Type} {c : Prop} [Decidable c] {a : α} {e e' : Err} :
    (if c then .ok a else .error e : Except Err α) = .error e' ↔ ¬ c ∧ e' = e := by
  by_cases h : c <;> simp [h, eq_comm]

/-! ### equation lemmas: the routines by cases on the rank -/

theorem ensure1d_nil : ensure1d [] = .ok [] := rfl

theorem ensure1d_cons (n : Nat) (t : List Nat) :
    ensure1d (n :: t) = if t.all (· == 1) then .ok [n, 1] else .error .valueError := by
  match t with
  | [] => rfl
  | [m] => by_cases hm : m = 1 <;> simp [ensure1d, trailingOnes, hm]
  | m :: r :: rest => cases h : (m :: r :: rest).all (· == 1) <;> simp [ensure1d, trailingOnes, h]

theorem ensureVector_nil : ensureVector [] = .ok [] := rfl
theorem ensureVector_single (n : Nat) : ensureVector [n] = .ok [n] := rfl
theorem ensureVector_pair (n m : Nat) :
    ensureVector [n, m] = if m = 1 then .ok [n] else .error .valueError := by
  by_cases hm : m = 1
  · subst hm; rfl
  · simp [ensureVector, hm]
theorem ensureVector_nd (n m r : Nat) (rest : List Nat) :
    ensureVector (n :: m :: r :: rest) = .error .valueError := by
  simp [ensureVector]

/-! ### ensure_equal_dims -/

theorem pick_eq (s : Shape) (dims : List Nat) :
    pick s dims = if ∃ d ∈ dims, s.length ≤ d then .error .indexError else .ok (dims.map (s[·]!)) := by
  induction dims with
  | nil => rfl
  | cons d ds ih =>
    simp only [pick, ih, List.mem_cons, exists_eq_or_imp, List.map_cons]
    by_cases hd : s.length ≤ d
    · rw [List.getElem?_eq_none hd, if_pos (Or.inl hd)]
    · rw [List.getElem?_eq_getElem (Nat.not_le.mp hd), getElem!_pos s d (Nat.not_le.mp hd)]
      by_cases hr : ∃ d ∈ ds, s.length ≤ d
      · rw [if_pos hr, if_pos (Or.inr hr)]
      · rw [if_neg hr, if_neg (not_or.mpr ⟨hd, hr⟩)]

theorem pickAll_eq (dims : List Nat) (ss : List Shape) :
    pickAll dims ss = if ∃ s ∈ ss, ∃ d ∈ dims, s.length ≤ d then .error .indexError
                      else .ok (ss.map fun s => dims.map (s[·]!)) := by
  induction ss with
  | nil => rfl
  | cons s t ih =>
    simp only [pickAll, pick_eq, ih, List.mem_cons, exists_eq_or_imp, List.map_cons]
    by_cases hs : ∃ d ∈ dims, s.length ≤ d
    · rw [if_pos hs, if_pos (Or.inl hs)]
    · by_cases ht : ∃ s ∈ t, ∃ d ∈ dims, s.length ≤ d
      · rw [if_neg hs, if_pos ht, if_pos (Or.inr ht)]
      · rw [if_neg hs, if_neg ht, if_neg (not_or.mpr ⟨hs, ht⟩)]

theorem getElem!_eq_iff {s t : Shape} {d : Nat} (hs : d < s.length) (ht : d < t.length) :
    s[d]! = t[d]! ↔ s[d]? = t[d]? := by
  rw [getElem!_pos s d hs, getElem!_pos t d ht, List.getElem?_eq_getElem hs, List.getElem?_eq_getElem ht,
    Option.some.injEq]

theorem ensureEqualDims_cons (s0 : Shape) (rest : List Shape) (dim : Option Nat) :
    ensureEqualDims (s0 :: rest) dim =
      if ∃ s ∈ s0 :: rest, ∃ d ∈ dimsOf s0 dim, s.length ≤ d then .error .indexError
      else if ∀ s ∈ rest, ∀ d ∈ dimsOf s0 dim, s[d]? = s0[d]? then .ok ()
      else .error .valueError := by
  simp only [ensureEqualDims, pick_eq, pickAll_eq, List.mem_cons, exists_eq_or_imp]
  generalize dimsOf s0 dim = dims
  by_cases h0 : ∃ d ∈ dims, s0.length ≤ d
  · rw [if_pos h0, if_pos (Or.inl h0)]
  · by_cases hr : ∃ s ∈ rest, ∃ d ∈ dims, s.length ≤ d
    · rw [if_neg h0, if_pos hr, if_pos (Or.inr hr)]
    · have key : ∀ s ∈ rest, dims.map (s[·]!) = dims.map (s0[·]!) ↔ ∀ d ∈ dims, s[d]? = s0[d]? := fun s hs => by
        rw [List.map_inj_left]
        exact forall_congr' fun d => forall_congr' fun hd => getElem!_eq_iff
          (Nat.not_le.mp fun hle => hr ⟨s, hs, d, hd, hle⟩) (Nat.not_le.mp fun hle => h0 ⟨d, hd, hle⟩)
      rw [if_neg h0, if_neg hr, if_neg (not_or.mpr ⟨h0, hr⟩)]
      simp only [List.all_map, Function.comp_def, List.all_eq_true, beq_iff_eq]
      exact ite_congr (propext (forall_congr' fun s => forall_congr' fun hs => key s hs)) (fun _ => rfl) (fun _ => rfl)

theorem verdict_ok_iff {c1 c2 : Prop} [Decidable c1] [Decidable c2] :
    (if c1 then .error .indexError else if c2 then .ok () else .error .valueError : Except Err Unit) = .ok () ↔
      ¬ c1 ∧ c2 := by
  by_cases h1 : c1 <;> by_cases h2 : c2 <;> simp [h1, h2]

theorem verdict_valueError_iff {c1 c2 : Prop} [Decidable c1] [Decidable c2] :
    (if c1 then .error .indexError else if c2 then .ok () else .error .valueError : Except Err Unit) =
      .error .valueError ↔ ¬ c1 ∧ ¬ c2 := by
  by_cases h1 : c1 <;> by_cases h2 : c2 <;> simp [h1, h2]

theorem ensureEqualDims_ok_iff (s0 : Shape) (rest : List Shape) (dim : Option Nat) :
    ensureEqualDims (s0 :: rest) dim = .ok () ↔
      ∀ d ∈ dimsOf s0 dim, ∃ v, s0[d]? = some v ∧ ∀ s ∈ rest, s[d]? = some v := by
  have hlt : ∀ {s : Shape} {d v : Nat}, s[d]? = some v → ¬ s.length ≤ d :=
    fun h hle => Nat.not_lt.mpr hle (List.getElem?_eq_some_iff.mp h).1
  rw [ensureEqualDims_cons, verdict_ok_iff]
  constructor
  · intro ⟨hno, hall⟩ d hd
    have hd0 : d < s0.length := Nat.not_le.mp fun hle => hno ⟨s0, List.mem_cons_self, d, hd, hle⟩
    exact ⟨s0[d], List.getElem?_eq_getElem hd0, fun s hs => by rw [hall s hs d hd, List.getElem?_eq_getElem hd0]⟩
  · intro h
    refine ⟨fun ⟨s, hs, d, hd, hle⟩ => ?_, fun s hs d hd => ?_⟩
    · obtain ⟨v, h0, hr⟩ := h d hd
      rcases List.mem_cons.mp hs with rfl | hs
      · exact hlt h0 hle
      · exact hlt (hr s hs) hle
    · obtain ⟨v, h0, hr⟩ := h d hd
      rw [h0, hr s hs]

theorem ensureEqualDims_some (s0 : Shape) (rest : List Shape) (d : Nat) :
    ensureEqualDims (s0 :: rest) (some d) =
      if ∃ s ∈ s0 :: rest, s.length ≤ d then .error .indexError
      else if ∀ s ∈ rest, s[d]? = s0[d]? then .ok ()
      else .error .valueError := by
  rw [ensureEqualDims_cons]
  simp only [dimsOf, List.mem_singleton, exists_eq_left, forall_eq]

theorem ensureEqualDims_none (s0 : Shape) (rest : List Shape) :
    ensureEqualDims (s0 :: rest) none =
      if ∃ s ∈ rest, s.length < s0.length then .error .indexError
      else if ∀ s ∈ rest, s.take s0.length = s0 then .ok ()
      else .error .valueError := by
  have h1 : (∃ s ∈ s0 :: rest, ∃ d ∈ dimsOf s0 none, s.length ≤ d) ↔ ∃ s ∈ rest, s.length < s0.length := by
    simp only [dimsOf, List.mem_range, List.mem_cons, exists_eq_or_imp]
    constructor
    · rintro (⟨d, hd, hle⟩ | ⟨s, hs, d, hd, hle⟩)
      · omega
      · exact ⟨s, hs, by omega⟩
    · rintro ⟨s, hs, hlt⟩
      exact Or.inr ⟨s, hs, s.length, hlt, Nat.le_refl _⟩
  have h2 : ∀ s : Shape, (∀ d ∈ dimsOf s0 none, s[d]? = s0[d]?) ↔ s.take s0.length = s0 := by
    intro s
    rw [eq_comm, ← List.prefix_iff_eq_take, List.prefix_iff_getElem?]
    refine forall_congr' fun d => ?_
    simp only [dimsOf, List.mem_range]
    exact forall_congr' fun hd => by rw [List.getElem?_eq_getElem hd]
  simp only [ensureEqualDims_cons, h1, h2]

/-! ### the loop over `to_check` -/

theorem allOk_cons (f : Shape → Except Err Shape) (s : Shape) (ss : List Shape) :
    allOk f (s :: ss) = match f s with
      | .error e => .error e
      | .ok t => match allOk f ss with
        | .ok ts => .ok (t :: ts)
        | .error e => .error e := rfl

theorem allOk_ok_iff (f : Shape → Except Err Shape) (ss ts : List Shape) :
    allOk f ss = .ok ts ↔ ts.length = ss.length ∧ ∀ p ∈ ss.zip ts, f p.1 = .ok p.2 := by
  induction ss generalizing ts with
  | nil => cases ts <;> simp [allOk]
  | cons s ss ih =>
    rw [allOk_cons]
    cases ts with
    | nil => cases f s with
      | error e => simp
      | ok t => cases allOk f ss <;> simp
    | cons t ts =>
      simp only [List.zip_cons_cons, List.forall_mem_cons, List.length_cons, Nat.add_right_cancel_iff, and_left_comm,
        ← ih]
      cases f s with
      | error e => simp
      | ok t' => cases allOk f ss <;> simp [eq_comm]

theorem allOk_error_iff (f : Shape → Except Err Shape) (ss : List Shape) :
    (∃ e, allOk f ss = .error e) ↔ ∃ s ∈ ss, ∃ e, f s = .error e := by
  induction ss with
  | nil => simp [allOk]
  | cons s ss ih =>
    rw [allOk_cons]
    simp only [List.mem_cons, exists_eq_or_imp, ← ih]
    cases hf : f s with
    | error e => simp
    | ok t => cases hr : allOk f ss <;> simp

end Support
