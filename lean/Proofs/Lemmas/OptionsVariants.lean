/-
  The sift variants of the option model: the inner calls evaluated once (`innerCalls`), so that every sift function is
  "bind the own signature, then `body` on the three bound option values"; from that, what a returned emission tells
  (`runVariant_spec`: the chains obey the keywords' dictionaries, which were acceptable) and when a call returns
  (`runVariant_ok`).
-/
import Proofs.Lemmas.OptionsStages

namespace Options
open Config Except

/-- what every sift function does with its three bound option values: `**(imf_opts or default)`, then — unless
    nothing is to be extracted — the chain -/
def body (f : Tree → Tree) (run : Bool) (io eo xo : Tree) : Except Err (List StageCall) :=
  unpack (f io) >>= fun ioKw => if run then chain ioKw eo xo else pure []

/-- the inner calls of the variants, with the values they pass on: which parameter each positional or keyword
    argument lands in is a fact about the signature tables, decided by evaluation (one conjunction: see `stageTables`) -/
theorem innerCalls :
    (∀ x1 x2 x3 x4 x5 x6 io eo xo, swnM [x1, x2, x3, x4, x5, x6, io, eo, xo] .nil = body imfOrLiteral true io eo xo) ∧
    (∀ x1 x2 x3 io eo xo, siftM [x1, x2, x3, io, eo, xo] .nil = body imfOrLiteral true io eo xo) ∧
    (∀ mf io eo xo, gmfM [mf] (mk [("imf_opts", io), ("envelope_opts", eo), ("extrema_opts", xo)]) =
      body noneToEmpty (usesFirstImf mf) io eo xo) ∧
    (∀ x1 x2 y1 y2 io eo xo, gnimM [x1, x2] (mk [("nphases", y1), ("nprocesses", y2), ("imf_opts", io),
      ("envelope_opts", eo), ("extrema_opts", xo)]) = body noneToEmpty true io eo xo) :=
  ⟨fun _ _ _ _ _ _ _ _ _ => rfl, fun _ _ _ _ _ _ => rfl, fun _ _ _ _ => rfl,
   fun _ _ _ _ _ _ _ => rfl⟩

/-! ### every sift function: bind the own signature, then `body` on the three bound option values -/

def on3 {α : Type} (a : Assoc) (F : Tree → Tree → Tree → α) : α :=
  F (arg a "imf_opts") (arg a "envelope_opts") (arg a "extrema_opts")

theorem siftM_eq (pos : List Tree) (kw : Assoc) :
    siftM pos kw = call siftSig pos kw >>= fun a => on3 a (body imfOrLiteral true) := rfl

theorem gnimM_eq (pos : List Tree) (kw : Assoc) :
    gnimM pos kw = call gnimSig pos kw >>= fun a => on3 a (body noneToEmpty true) := rfl

theorem gmfM_eq (pos : List Tree) (kw : Assoc) :
    gmfM pos kw = call gmfSig pos kw >>= fun a => on3 a (body noneToEmpty (usesFirstImf (arg a "first_mask_mode"))) := rfl

theorem ensM_eq (kw : Assoc) : ensM kw = call ensSig [] kw >>= fun a => on3 a fun io eo xo =>
    if !okNoiseMode (arg a "noise_mode") then .error .valueError else body imfOrLiteral true io eo xo := by
  simp only [ensM, innerCalls.1, on3]

/-- `jobs ++ noise` of `cesM`, `first ++ rest` of `maskM` -/
def both (x y : Except Err (List StageCall)) : Except Err (List StageCall) := x >>= fun a => y >>= fun b => pure (a ++ b)

theorem cesM_eq (kw : Assoc) : cesM kw = call ensSig [] kw >>= fun a =>
    on3 a fun io eo xo => both (body imfOrLiteral true io eo xo) (body imfOrLiteral true io eo xo) := by
  simp only [cesM, innerCalls.1, innerCalls.2.1, on3, both]

theorem maskM_eq (kw : Assoc) : maskM kw = call maskSig [] kw >>= fun a => on3 a fun io eo xo =>
    both (if derivesMaskFreqs (arg a "mask_freqs") then body noneToEmpty (usesFirstImf (arg a "mask_freqs")) io eo xo
      else pure []) (body noneToEmpty true io eo xo) := by
  simp only [maskM, maskFirst, innerCalls.2.2.1, innerCalls.2.2.2, on3, both]

/-! ### what an emission tells about the three option values it was run with -/

/-- a returned emission: complete chains that obey the three option values, which — if any chain ran — were absent
    or acceptable dictionaries -/
structure Ran (io eo xo : Tree) (cs : List StageCall) : Prop where
  obeys : Obeys (dictOf io) (dictOf eo) (dictOf xo) cs
  good : cs ≠ [] → OptOK falsy GoodImf io ∧ Good2 eo xo

section
variable {io eo xo : Tree}

theorem Ran.nil (io eo xo : Tree) : Ran io eo xo [] := ⟨Obeys.nil _ _ _, fun h => absurd rfl h⟩

theorem Ran.both {x y : Except Err (List StageCall)} {cs : List StageCall}
    (hx : ∀ a, x = .ok a → Ran io eo xo a) (hy : ∀ b, y = .ok b → Ran io eo xo b) (h : both x y = .ok cs) :
    Ran io eo xo cs := by
  simp only [Options.both, bind_eq_ok, pure_eq_ok] at h
  obtain ⟨a, ha, b, hb, rfl⟩ := h
  refine ⟨(hx a ha).obeys.append (hy b hb).obeys, fun hne => ?_⟩
  cases a with
  | nil => exact (hy b hb).good hne
  | cons c a => exact (hx _ ha).good (by simp)

/-- `f` replaces an absent (`c`) `imf_opts` value by a dictionary `l` that only repeats defaults -/
structure ImfDefault (f : Tree → Tree) (c : Tree → Bool) (l : Assoc) : Prop where
  eq : ∀ t, f t = if c t then .dict l else t
  absent : Absent c
  toFalsy : ∀ t, c t = true → falsy t = true
  ofNone : ∀ t, isNone t = true → c t = true
  good : GoodImf l
  repeats : resolve gniOwn l = gniOwn

theorem imfDefault_literal : ImfDefault imfOrLiteral falsy (dictOf siftImfLiteral) :=
  ⟨fun _ => rfl, absent_falsy, fun _ h => h, fun _ => falsy_of_isNone, good_siftLiteral, siftLiteral_resolve⟩

theorem imfDefault_none : ImfDefault noneToEmpty isNone .nil :=
  ⟨fun _ => rfl, absent_isNone, fun _ => falsy_of_isNone, fun _ h => h, good_nil _, resolve_nil _⟩

theorem body_ran {f : Tree → Tree} {c : Tree → Bool} {l : Assoc} (hf : ImfDefault f c l) {run : Bool}
    (cs : List StageCall) (h : body f run io eo xo = .ok cs) : Ran io eo xo cs := by
  simp only [body, bind_eq_ok, hf.eq] at h
  obtain ⟨ioKw, hu, h⟩ := h
  cases run with
  | false => cases pure_eq_ok.1 h; exact Ran.nil _ _ _
  | true =>
    obtain ⟨ob, hi, h2⟩ := chain_spec h
    obtain ⟨e1, e2⟩ := orLit_spec hf.absent (P := GoodImf) hf.good hf.repeats ((unpack_orLit rfl _ _).1 hu)
    exact ⟨⟨[cs], by simp, fun c hc => by
      cases List.mem_singleton.1 hc; exact ob.congr e1 (fun _ _ _ => rfl) (fun _ _ _ => rfl)⟩,
      fun _ => ⟨(e2.1 hi).imp_left (hf.toFalsy _), h2⟩⟩

theorem body_ok {f : Tree → Tree} {c : Tree → Bool} {l : Assoc} (hf : ImfDefault f c l) (run : Bool)
    (hi : OptOK isNone GoodImf io) (h2 : Good2 eo xo) : ∃ cs, body f run io eo xo = .ok cs ∧ (run = true → cs ≠ []) := by
  obtain ⟨ioKw, hu, hg⟩ := orLit_ok (lit := .dict l) rfl hf.good (hi.imp_left (hf.ofNone _))
  cases run with
  | false => exact ⟨[], by simp only [body, bind_eq_ok, hf.eq]; exact ⟨ioKw, hu, rfl⟩, fun h => by cases h⟩
  | true =>
    obtain ⟨cs, hc, hne⟩ := chain_ok hg h2
    exact ⟨cs, by simp only [body, bind_eq_ok, hf.eq]; exact ⟨ioKw, hu, hc⟩, fun _ => hne⟩

end

/-! ### what a returned call of each variant tells -/

theorem lookup_maskSecondArgs (kw : Assoc) (q : Key) (h1 : q ≠ "max_imfs".toList) (h2 : q ≠ "mask_freqs".toList) :
    (maskSecondArgs kw).lookup q = kw.lookup q := by
  unfold maskSecondArgs
  rw [Assoc.lookup_insert_other _ _ _ h2]
  split
  · rfl
  · rw [Assoc.lookup_insert_other _ _ _ h1]

theorem kwArg_maskSecondArgs (kw : Assoc) {name : String} (hn : name.toList ∈ optKeys) :
    kwArg (maskSecondArgs kw) name = kwArg kw name := by
  have hs := (sigOf_spec .mask).1
  rw [kwArg, lookup_maskSecondArgs kw _ (hs.top_ne_opt maxImfs_mem_top hn).symm (hs.top_ne_opt maskFreqs_mem_top hn).symm]
  rfl

/-- a sift function that binds `sig` and then runs `F` on the three bound option values: these are the caller's -/
theorem ran_of_bind {sig : Assoc} {pos top : List Key} (hs : VariantSig sig pos top optKeys) {vals : List Tree}
    (hv : vals.length = pos.length) {kw : Assoc} {F : Assoc → Tree → Tree → Tree → Except Err (List StageCall)}
    (hF : ∀ a io eo xo cs, F a io eo xo = .ok cs → Ran io eo xo cs)
    {cs : List StageCall} (h : (call sig vals kw >>= fun a => on3 a (F a)) = .ok cs) :
    Ran (kwArg kw "imf_opts") (kwArg kw "envelope_opts") (kwArg kw "extrema_opts") cs := by
  obtain ⟨a, hc, hb⟩ := bind_eq_ok.1 h
  rw [← hs.arg_opt hv hc imf_mem, ← hs.arg_opt hv hc env_mem, ← hs.arg_opt hv hc ext_mem]
  exact hF a _ _ _ cs hb

theorem maskM_ran {kw : Assoc} {cs : List StageCall} (h : maskM kw = .ok cs) :
    Ran (kwArg kw "imf_opts") (kwArg kw "envelope_opts") (kwArg kw "extrema_opts") cs :=
  ran_of_bind (sigOf_spec .mask).1 rfl (fun a io eo xo cs h => Ran.both (fun c hc => by
      split at hc
      · exact body_ran imfDefault_none c hc
      · cases pure_eq_ok.1 hc; exact Ran.nil _ _ _) (body_ran imfDefault_none) h) ((maskM_eq kw).symm.trans h)

/-- the IMF-extraction options of a variant: for `get_next_imf` itself they are its own keywords -/
def imfOf (v : Variant) (kw : Assoc) : Assoc :=
  if baseVariant v = .nextImf then kw else dictOf (kwArg kw "imf_opts")

/-- `Ran` in terms of a variant's keywords: the IMF options are `imfOf`, and an `imf_opts` value is judged only where
    the variant has that parameter -/
def RanV (v : Variant) (kw : Assoc) (cs : List StageCall) : Prop :=
  Obeys (imfOf v kw) (dictOf (kwArg kw "envelope_opts")) (dictOf (kwArg kw "extrema_opts")) cs ∧
  (cs ≠ [] → (baseVariant v ≠ .nextImf → OptOK falsy GoodImf (kwArg kw "imf_opts")) ∧
    Good2 (kwArg kw "envelope_opts") (kwArg kw "extrema_opts"))

theorem Ran.toV {v : Variant} {kw : Assoc} {cs : List StageCall} (hv : imfOf v kw = dictOf (kwArg kw "imf_opts"))
    (h : Ran (kwArg kw "imf_opts") (kwArg kw "envelope_opts") (kwArg kw "extrema_opts") cs) : RanV v kw cs :=
  -- `rw`, not `hv ▸`: the latter abstracts over terms holding several key strings and decodes them
  ⟨by rw [hv]; exact h.obeys, fun hne => ⟨fun _ => (h.good hne).1, (h.good hne).2⟩⟩

theorem runVariant_spec : ∀ (v : Variant) {kw : Assoc} {cs : List StageCall}, runVariant false v kw = .ok cs → RanV v kw cs
  | .sift, kw, cs, h =>
    (ran_of_bind (sigOf_spec .sift).1 rfl (fun _ _ _ _ cs => body_ran imfDefault_literal cs)
      ((siftM_eq [] kw).symm.trans h)).toV rfl
  | .ensemble, kw, cs, h =>
    (ran_of_bind (sigOf_spec .ensemble).1 rfl (fun _ _ _ _ cs h => body_ran imfDefault_literal cs (ite_error_eq_ok.1 h).2)
      ((ensM_eq kw).symm.trans h)).toV rfl
  | .complete, kw, cs, h =>
    (ran_of_bind (sigOf_spec .complete).1 rfl
      (fun _ _ _ _ _ h => Ran.both (body_ran imfDefault_literal) (body_ran imfDefault_literal) h)
      ((cesM_eq kw).symm.trans h)).toV rfl
  | .mask, kw, cs, h => (maskM_ran (show maskM kw = _ from h)).toV rfl
  | .maskSecond, kw, cs, h => by
    have := maskM_ran (show maskM (maskSecondArgs kw) = _ from h)
    rw [kwArg_maskSecondArgs kw imf_mem, kwArg_maskSecondArgs kw env_mem, kwArg_maskSecondArgs kw ext_mem] at this
    exact this.toV rfl
  | .nextImfMask, kw, cs, h =>
    (ran_of_bind (sigOf_spec .nextImfMask).1 rfl (fun _ _ _ _ cs => body_ran imfDefault_none cs)
      ((gnimM_eq [data, data] kw).symm.trans h)).toV rfl
  | .maskFreqs, kw, cs, h =>
    (ran_of_bind (sigOf_spec .maskFreqs).1 rfl (fun _ _ _ _ cs => body_ran imfDefault_none cs)
      ((gmfM_eq [] kw).symm.trans h)).toV rfl
  | .nextImf, kw, cs, h =>
    have := gniM_spec (show gniM [] kw = _ from h)
    ⟨⟨[cs], by simp, fun c hc => by cases List.mem_singleton.1 hc; exact this.1⟩,
      fun _ => ⟨fun hb => absurd rfl hb, this.2.2⟩⟩
  | .second v, kw, cs, h => runVariant_spec v (show runVariant false v kw = _ from h)

/-! ### totality -/

/-- the keywords are parameters of the variant, each once, and the option values among them are absent or acceptable -/
structure KwOK (v : Variant) (kw : Assoc) : Prop where
  binds : Good (topKeys v ++ optsOf v) kw
  noise : baseVariant v = .ensemble → okNoiseMode ((kw.lookup "noise_mode".toList).getD (s "single")) = true
  imf : baseVariant v ≠ .nextImf → OptOK isNone GoodImf (kwArg kw "imf_opts")
  rest : Good2 (kwArg kw "envelope_opts") (kwArg kw "extrema_opts")

theorem ok_of_bind {sig : Assoc} {pos top : List Key} (hs : VariantSig sig pos top optKeys) {vals : List Tree}
    (hv : vals.length = pos.length) {kw : Assoc} (hb : ∃ a, call sig vals kw = .ok a)
    {F : Assoc → Tree → Tree → Tree → Except Err (List StageCall)} {Q : List StageCall → Prop}
    (hF : ∀ a, call sig vals kw = .ok a →
      ∃ cs, F a (kwArg kw "imf_opts") (kwArg kw "envelope_opts") (kwArg kw "extrema_opts") = .ok cs ∧ Q cs) :
    ∃ cs, (call sig vals kw >>= fun a => on3 a (F a)) = .ok cs ∧ Q cs := by
  obtain ⟨a, hc⟩ := hb
  obtain ⟨cs, h, hq⟩ := hF a hc
  refine ⟨cs, bind_eq_ok.2 ⟨a, hc, ?_⟩, hq⟩
  rw [on3, hs.arg_opt hv hc imf_mem, hs.arg_opt hv hc env_mem, hs.arg_opt hv hc ext_mem]
  exact h

theorem both_ok {x y : Except Err (List StageCall)} (hx : ∃ a, x = .ok a) (hy : ∃ b, y = .ok b ∧ b ≠ []) :
    ∃ cs, both x y = .ok cs ∧ cs ≠ [] := by
  obtain ⟨a, rfl⟩ := hx
  obtain ⟨b, rfl, hb⟩ := hy
  exact ⟨a ++ b, rfl, by simp [hb]⟩

theorem maskM_ok {kw : Assoc} (hb : ∃ a, call maskSig [] kw = .ok a) (hi : OptOK isNone GoodImf (kwArg kw "imf_opts"))
    (h2 : Good2 (kwArg kw "envelope_opts") (kwArg kw "extrema_opts")) : ∃ cs, maskM kw = .ok cs ∧ cs ≠ [] := by
  rw [maskM_eq]
  refine ok_of_bind (sig := maskSig) (sigOf_spec .mask).1 rfl hb fun a _ => ?_
  refine both_ok ?_ ((body_ok imfDefault_none true hi h2).imp fun _ h => ⟨h.1, h.2 rfl⟩)
  split
  · exact (body_ok imfDefault_none _ hi h2).imp fun _ h => h.1
  · exact ⟨[], rfl⟩

/-- `mask_sift_second_layer`'s two extra entries are parameters of `mask_sift` -/
theorem good_maskSecondArgs {kw : Assoc} (h : Good (topKeys .mask ++ optKeys) kw) :
    Good (topKeys .mask ++ optKeys) (maskSecondArgs kw) := by
  unfold maskSecondArgs
  refine Good.insert ?_ (List.mem_append_left _ maskFreqs_mem_top) _
  split
  · exact h
  · exact h.insert (List.mem_append_left _ maxImfs_mem_top) _

theorem KwOK.call_ok {v : Variant} {kw : Assoc} (h : KwOK v kw) : ∃ a, call (sigOf v) (posOf v) kw = .ok a :=
  (sigOf_spec v).1.call_ok (sigOf_spec v).2 h.binds

theorem runVariant_ok : ∀ (v : Variant) (kw : Assoc), KwOK v kw →
    ∃ cs, runVariant false v kw = .ok cs ∧ (baseVariant v ≠ .maskFreqs → cs ≠ [])
  | .sift, kw, h => by
    show ∃ cs, siftM [] kw = .ok cs ∧ _
    rw [siftM_eq]
    refine ok_of_bind (sig := siftSig) (kw := kw) (sigOf_spec .sift).1 rfl h.call_ok fun a _ => ?_
    exact (body_ok imfDefault_literal true (h.imf (by decide)) h.rest).imp fun _ h => ⟨h.1, fun _ => h.2 rfl⟩
  | .ensemble, kw, h => by
    show ∃ cs, ensM kw = .ok cs ∧ _
    rw [ensM_eq]
    refine ok_of_bind (sig := ensSig) (kw := kw) (sigOf_spec .ensemble).1 rfl h.call_ok fun a hc => ?_
    obtain ⟨_, rfl⟩ := call_nil_eq_ok.1 hc
    simp only [arg_resolve ensSig_noise, h.noise rfl, Bool.not_true, Bool.false_eq_true, if_false]
    exact (body_ok imfDefault_literal true (h.imf (by decide)) h.rest).imp fun _ h => ⟨h.1, fun _ => h.2 rfl⟩
  | .complete, kw, h => by
    show ∃ cs, cesM kw = .ok cs ∧ _
    rw [cesM_eq]
    refine ok_of_bind (sig := ensSig) (kw := kw) (sigOf_spec .complete).1 rfl h.call_ok fun a _ => ?_
    have := body_ok imfDefault_literal true (h.imf (by decide)) h.rest
    exact (both_ok (this.imp fun _ h => h.1) (this.imp fun _ h => ⟨h.1, h.2 rfl⟩)).imp fun _ h => ⟨h.1, fun _ => h.2⟩
  | .mask, kw, h => (maskM_ok h.call_ok (h.imf (by decide)) h.rest).imp fun _ h => ⟨h.1, fun _ => h.2⟩
  | .maskSecond, kw, h => by
    have := maskM_ok ((sigOf_spec .mask).1.call_ok (vals := []) rfl (good_maskSecondArgs h.binds))
    rw [kwArg_maskSecondArgs kw imf_mem, kwArg_maskSecondArgs kw env_mem, kwArg_maskSecondArgs kw ext_mem] at this
    exact (this (h.imf (by decide)) h.rest).imp fun _ h => ⟨h.1, fun _ => h.2⟩
  | .nextImfMask, kw, h => by
    show ∃ cs, gnimM [data, data] kw = .ok cs ∧ _
    rw [gnimM_eq]
    refine ok_of_bind (sig := gnimSig) (kw := kw) (sigOf_spec .nextImfMask).1 rfl h.call_ok fun a _ => ?_
    exact (body_ok imfDefault_none true (h.imf (by decide)) h.rest).imp fun _ h => ⟨h.1, fun _ => h.2 rfl⟩
  | .maskFreqs, kw, h => by
    show ∃ cs, gmfM [] kw = .ok cs ∧ _
    rw [gmfM_eq]
    refine ok_of_bind (sig := gmfSig) (kw := kw) (sigOf_spec .maskFreqs).1 rfl h.call_ok fun a _ => ?_
    exact (body_ok imfDefault_none _ (h.imf (by decide)) h.rest).imp fun _ h => ⟨h.1, fun hne => absurd rfl hne⟩
  | .nextImf, kw, h => by
    obtain ⟨a, hc⟩ := h.call_ok
    exact (gniM_ok (call_nil_eq_ok.1 hc).1 h.rest.1 h.rest.2).imp fun _ h => ⟨h.1, fun _ => h.2⟩
  | .second v, kw, h => runVariant_ok v kw ⟨h.binds, h.noise, h.imf, h.rest⟩

end Options
