/- Lemmas about the wrap threshold (`phase_step`) of EmdModel.Cycles: the threshold 0, negative
   thresholds, thresholds nothing exceeds. -/
import Proofs.Lemmas.Cycles

namespace Cycles
variable {α : Type}

theorem absR_nonneg (v : Rat) : 0 ≤ absR v := by
  unfold absR; split <;> grind

theorem absR_pos_iff (v : Rat) : 0 < absR v ↔ v ≠ 0 := by
  unfold absR; split <;> grind

theorem absR_le_of_bounds (a b lo hi : Rat) (ha : lo ≤ a ∧ a ≤ hi) (hb : lo ≤ b ∧ b ≤ hi) :
    absR (b - a) ≤ hi - lo := by
  unfold absR; split <;> grind

theorem wrapAt_zero_iff (a b : Rat) : wrapAt 0 a b = true ↔ a ≠ b := by
  unfold wrapAt
  rw [decide_eq_true_eq, absR_pos_iff]
  grind

theorem wrapAt_of_neg (step : Rat) (h : step < 0) (a b : Rat) : wrapAt step a b = true := by
  unfold wrapAt
  have := absR_nonneg (b - a)
  grind

theorem wrapAt_false_of_bounds (step lo hi : Rat) (h : hi - lo ≤ step) (a b : Rat)
    (ha : lo ≤ a ∧ a ≤ hi) (hb : lo ≤ b ∧ b ≤ hi) : wrapAt step a b = false := by
  unfold wrapAt
  have := absR_le_of_bounds a b lo hi ha hb
  grind

theorem runsBy_all_wrap (w : α → α → Bool) (hw : ∀ a b, w a b = true) (xs : List α) :
    runsBy w xs = xs.map fun a => [a] :=
  runsBy_induction w (motive := fun xs rs => rs = xs.map fun a => [a]) rfl (fun _ => rfl)
    (fun a _ _ _ _ _ ih => congrArg ([a] :: ·) ih) (fun a b _ _ _ h => absurd (hw a b) (by simp [h])) xs

theorem wrapIdx_nil_of_no_wrap (w : α → α → Bool) (xs : List α) (i : Nat)
    (hw : ∀ a ∈ xs, ∀ b ∈ xs, w a b = false) : wrapIdx w xs i = [] := by
  induction xs generalizing i with
  | nil => simp [wrapIdx]
  | cons a t ih =>
    cases t with
    | nil => simp [wrapIdx]
    | cons b t =>
      unfold wrapIdx
      rw [hw a (by simp) b (by simp)]
      exact ih (i + 1) (fun x hx y hy => hw x (List.mem_cons_of_mem _ hx) y (List.mem_cons_of_mem _ hy))

theorem noWrap_const {β : Type} (w : α → α → Bool) (f : α → β) (hf : ∀ a b, w a b = false → f a = f b) :
    ∀ (r : List α), NoWrap w r → ∀ x ∈ r, ∀ y ∈ r, f x = f y := by
  intro r hn
  have hp : r.Pairwise fun x y => f x = f y := by
    induction r with
    | nil => exact .nil
    | cons a t ih =>
      cases t with
      | nil => exact List.pairwise_singleton _ _
      | cons b t =>
        have ihb := ih hn.2
        refine List.pairwise_cons.mpr ⟨fun x hx => ?_, ihb⟩
        rcases List.mem_cons.mp hx with rfl | hx
        · exact hf a _ hn.1
        · exact (hf a b hn.1).trans ((List.pairwise_cons.mp ihb).1 x hx)
  exact fun x hx y hy =>
    List.Pairwise.forall_of_forall_of_flip (R := fun x y => f x = f y) (fun _ _ => rfl) hp (hp.imp Eq.symm) hx hy

theorem paint_labelRuns_singletons (c : Nat) (xs : List α) :
    paint (labelRuns (fun _ => true) c (xs.map fun a => [a])) = (List.range' c xs.length).map (fun (k : Nat) => (k : Int)) := by
  induction xs generalizing c with
  | nil => simp [labelRuns, paint]
  | cons a t ih =>
    simp only [List.map_cons, labelRuns, ite_true, paint_cons, List.length_cons, List.range'_succ]
    rw [ih (c + 1)]
    simp [labelInt]

end Cycles
