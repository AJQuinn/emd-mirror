/-
  Lemmas for C10 / C11 (model: EmdModel/Spectra.lean).  The declarative specifications (`inBin`, `inRange`,
  `rowSpec`, `hhtSpec`, `hht1dSpec`) come first.  `digitize` on sorted edges makes `inBin` the graph of the bin
  index `binIdx`; scatter-add is a table of per-cell sums of the sparse entries (`toDense_eq_tab`), and a cell
  of time row `t` only sees what that row emits (`sumP_cooFrom`).
-/
import EmdModel.Spectra
import Proofs.Lemmas.CountPrefix

namespace Spectra

/-! ### declarative specification -/

/-- `edges[b] ≤ f < edges[b+1]` (false for NaN and for a bin that does not exist) -/
def inBin (e : List Rat) (b : Nat) : Freq → Bool
  | none => false
  | some v =>
    match e[b]?, e[b + 1]? with
    | some lo, some hi => decide (lo ≤ v) && decide (v < hi)
    | _, _ => false

/-- `edges[0] ≤ f < edges[last]` -/
def inRange (e : List Rat) : Freq → Bool
  | none => false
  | some v =>
    match e.head?, e.getLast? with
    | some lo, some hi => decide (lo ≤ v) && decide (v < hi)
    | _, _ => false

/-- weight that one time row puts into bin `b`: Σ_j w(a_j)·[f_j ∈ bin b] -/
def rowSpec (e : List Rat) (energy : Bool) (r : HRow) (b : Nat) : Rat :=
  ((List.zip r.1 r.2).map fun fa => if inBin e b fa.1 then weight energy fa.2 else 0).sum

/-- SPEC of the Hilbert-Huang spectrum `[bins × time]` -/
def hhtSpec (e : List Rat) (energy : Bool) (F : List (List Freq)) (A : List (List Rat)) : List (List Rat) :=
  (List.range (e.length - 1)).map fun b => (List.zip F A).map fun r => rowSpec e energy r b

/-- SPEC of one cell of the 1-D spectrum: Σ_t w(a[t][j])·[f[t][j] ∈ bin b] -/
def hht1dSpecCell (e : List Rat) (energy : Bool) (rows : List HRow) (b j : Nat) : Rat :=
  (rows.map fun r =>
    (((List.zip r.1 r.2)[j]?).map fun fa => if inBin e b fa.1 then weight energy fa.2 else 0).getD 0).sum

/-- SPEC of the 1-D spectrum `[bins × IMFs]` -/
def hht1dSpec (e : List Rat) (energy : Bool) (ncols : Nat) (F : List (List Freq)) (A : List (List Rat)) :
    List (List Rat) :=
  (List.range (e.length - 1)).map fun b =>
    (List.range ncols).map fun j => hht1dSpecCell e energy (List.zip F A) b j

def tab {α : Type} (nr nc : Nat) (g : Nat → Nat → α) : List (List α) :=
  (List.range nr).map fun r => (List.range nc).map fun c => g r c

def sumP (p : Trip → Bool) (ts : List Trip) : Rat := (ts.map fun x => if p x then x.val else 0).sum

/-- Σ of the entries sitting at `(r, c)` -/
def sumIf (ts : List Trip) (r c : Nat) : Rat := sumP (fun x => decide (x.row = r) && decide (x.col = c)) ts

/-! ### sums -/

theorem sum_map_zero {α : Type} (l : List α) : (l.map fun _ => (0 : Rat)).sum = 0 := by
  induction l with
  | nil => rfl
  | cons x xs ih => simp [ih, Rat.zero_add]

theorem sum_map_add {α : Type} (f g : α → Rat) (l : List α) :
    (l.map fun x => f x + g x).sum = (l.map f).sum + (l.map g).sum := by
  induction l with
  | nil => simp [Rat.zero_add]
  | cons x xs ih => simp only [List.map_cons, List.sum_cons, ih]; grind

theorem sum_map_comm {α β : Type} (l : List α) (m : List β) (f : α → β → Rat) :
    (l.map fun x => (m.map fun y => f x y).sum).sum = (m.map fun y => (l.map fun x => f x y).sum).sum := by
  induction l with
  | nil => simp [sum_map_zero]
  | cons x xs ih => simp only [List.map_cons, List.sum_cons, ih, sum_map_add]

theorem sum_map_congr {α : Type} (f g : α → Rat) (l : List α) (h : ∀ x ∈ l, f x = g x) :
    (l.map f).sum = (l.map g).sum := by
  rw [List.map_congr_left h]

theorem sum_map_mul_right {α : Type} (f : α → Rat) (c : Rat) (l : List α) :
    (l.map fun x => f x * c).sum = (l.map f).sum * c := by
  induction l with
  | nil => simp [Rat.zero_mul]
  | cons x xs ih => simp only [List.map_cons, List.sum_cons, ih]; grind

theorem sum_range_ite_lt (n k : Nat) (w : Rat) :
    ((List.range n).map fun c => if k = c then w else 0).sum = if k < n then w else 0 := by
  induction n with
  | zero => simp
  | succ n ih =>
    rw [List.range_succ, List.map_append, List.sum_append, ih]
    by_cases h1 : k = n
    · simp [h1, Rat.zero_add, Rat.add_zero]
    · have : k < n + 1 ↔ k < n := by omega
      simp [h1, this, Rat.add_zero]

/-- two indicator sums that each pick at most one term: so does the double sum over the pairs -/
theorem sum_ite_and {α β : Type} (la : List α) (lc : List β) (P : α → Bool) (Q : β → Bool) (p q : Bool)
    (hP : ∀ w : Rat, (la.map fun a => if P a then w else 0).sum = if p then w else 0)
    (hQ : ∀ w : Rat, (lc.map fun c => if Q c then w else 0).sum = if q then w else 0) (w : Rat) :
    (la.map fun a => (lc.map fun c => if P a && Q c then w else 0).sum).sum = if p && q then w else 0 := by
  have inner : ∀ a, (lc.map fun c => if P a && Q c then w else 0).sum =
      if P a then (if q then w else 0) else 0 := by
    intro a
    cases P a with
    | true => simpa using hQ w
    | false => simp [sum_map_zero]
  simp only [inner, hP]
  cases p <;> cases q <;> rfl

theorem sum_range_getElem? {α : Type} (l : List α) (g : α → Rat) (M : Nat) (h : l.length ≤ M) :
    ((List.range M).map fun j => ((l[j]?).map g).getD 0).sum = (l.map g).sum := by
  induction l generalizing M with
  | nil => simp [sum_map_zero]
  | cons x xs ih =>
    cases M with
    | zero => simp at h
    | succ M' =>
      rw [List.range_succ_eq_map]
      simp only [List.map_cons, List.sum_cons, List.getElem?_cons_zero, List.map_map]
      congr 1
      have := ih M' (by simpa using h)
      rw [← this]
      apply sum_map_congr
      simp

theorem sum_map_const {α : Type} (l : List α) (g : α → Nat) (c : Nat) (h : ∀ x ∈ l, g x = c) :
    (l.map g).sum = l.length * c := by
  rw [List.map_eq_replicate_iff.mpr h, List.sum_replicate_nat]

/-! ### `digitize` on sorted edges: the edges ≤ v form a prefix -/

theorem digitize_le_length (e : List Rat) (v : Rat) : digitize e v ≤ e.length := List.countP_le_length

theorem lt_digitize_iff (e : List Rat) (he : e.Pairwise (· ≤ ·)) (v : Rat) (i : Nat) (hi : i < e.length) :
    i < digitize e v ↔ e[i] ≤ v := by
  simpa [digitize] using List.lt_countP_iff_of_prefix (· ≤ v) e (List.le_on_prefix he v) i hi

theorem digitize_spec (e : List Rat) (he : e.Pairwise (· ≤ ·)) (v : Rat) (b : Nat) (hb : b + 1 < e.length) :
    digitize e v = b + 1 ↔ e[b] ≤ v ∧ v < e[b + 1] := by
  simpa [digitize, Rat.not_le] using List.countP_eq_succ_iff_of_prefix (· ≤ v) e (List.le_on_prefix he v) b hb

theorem digitize_eq_zero_iff (e : List Rat) (he : e.Pairwise (· ≤ ·)) (v : Rat) (h : 0 < e.length) :
    digitize e v = 0 ↔ v < e[0] := by
  rw [← Rat.not_le, ← lt_digitize_iff e he v 0 h]; omega

theorem digitize_eq_length_iff (e : List Rat) (he : e.Pairwise (· ≤ ·)) (v : Rat) (h : 0 < e.length) :
    digitize e v = e.length ↔ e[e.length - 1]'(Nat.sub_one_lt (Nat.ne_of_gt h)) ≤ v := by
  have := digitize_le_length e v
  rw [← lt_digitize_iff e he v (e.length - 1) (by omega)]; omega

theorem digitizeF_le_length (e : List Rat) (f : Freq) : digitizeF e f ≤ e.length := by
  cases f with
  | none => simp [digitizeF]
  | some v => exact digitize_le_length e v

/-! ### bins: `inBin` is the graph of `binIdx`, `inRange` its domain -/

theorem inBin_lt {e : List Rat} {b : Nat} {f : Freq} (h : inBin e b f = true) : b + 1 < e.length := by
  cases f with
  | none => simp [inBin] at h
  | some v =>
    unfold inBin at h
    cases h1 : e[b + 1]? with
    | none => cases h0 : e[b]? <;> simp [h0, h1] at h
    | some hi => exact (List.getElem?_eq_some_iff.mp h1).1

theorem inBin_some (e : List Rat) (b : Nat) (v : Rat) (hb : b + 1 < e.length) :
    inBin e b (some v) = true ↔ e[b]'(Nat.lt_of_succ_lt hb) ≤ v ∧ v < e[b + 1] := by
  simp only [inBin, List.getElem?_eq_getElem hb, List.getElem?_eq_getElem (Nat.lt_of_succ_lt hb),
    Bool.and_eq_true, decide_eq_true_eq]

theorem digitizeF_eq_iff (e : List Rat) (he : e.Pairwise (· ≤ ·)) (f : Freq) (b : Nat) (hb : b + 1 < e.length) :
    digitizeF e f = b + 1 ↔ inBin e b f = true := by
  cases f with
  | none => simp [digitizeF, inBin]; omega
  | some v => rw [inBin_some e b v hb]; exact digitize_spec e he v b hb

/-- the signed `digitize − 1` of the code, in natural numbers -/
theorem binIdx_eq (e : List Rat) (f : Freq) :
    binIdx e f = if 1 ≤ digitizeF e f ∧ digitizeF e f < e.length then some (digitizeF e f - 1) else none := by
  unfold binIdx
  simp only []
  rw [show ((digitizeF e f : Int) - 1).toNat = digitizeF e f - 1 from Int.toNat_sub _ 1]
  exact ite_congr (propext (by omega)) (fun _ => rfl) (fun _ => rfl)

theorem binIdx_eq_some_iff_digitizeF (e : List Rat) (f : Freq) (b : Nat) :
    binIdx e f = some b ↔ digitizeF e f = b + 1 ∧ b + 1 < e.length := by
  rw [binIdx_eq]
  split
  · rw [Option.some.injEq]; omega
  · rw [iff_false_left nofun]; omega

theorem binIdx_lt {e : List Rat} {f : Freq} {b : Nat} (h : binIdx e f = some b) : b < e.length - 1 := by
  have := ((binIdx_eq_some_iff_digitizeF e f b).mp h).2; omega

theorem binIdx_eq_some_iff (e : List Rat) (he : e.Pairwise (· ≤ ·)) (f : Freq) (b : Nat) :
    binIdx e f = some b ↔ inBin e b f = true := by
  rw [binIdx_eq_some_iff_digitizeF]
  by_cases hb : b + 1 < e.length
  · rw [digitizeF_eq_iff e he f b hb, and_iff_left hb]
  · exact ⟨fun h => absurd h.2 hb, fun h => absurd (inBin_lt h) hb⟩

theorem inBin_eq_decide (e : List Rat) (he : e.Pairwise (· ≤ ·)) (f : Freq) (b : Nat) :
    inBin e b f = decide (binIdx e f = some b) := by
  rw [Bool.eq_iff_iff, decide_eq_true_iff]; exact (binIdx_eq_some_iff e he f b).symm

theorem inRange_iff (e : List Rat) (he : e.Pairwise (· ≤ ·)) (f : Freq) :
    inRange e f = true ↔ 1 ≤ digitizeF e f ∧ digitizeF e f < e.length := by
  cases f with
  | none => simp [inRange, digitizeF]
  | some v =>
    by_cases hl : 0 < e.length
    · simp only [inRange, digitizeF, List.head?_eq_getElem?, List.getLast?_eq_getElem?, List.getElem?_eq_getElem hl,
        List.getElem?_eq_getElem (Nat.sub_one_lt (Nat.ne_of_gt hl)), Bool.and_eq_true, decide_eq_true_eq]
      rw [← Rat.not_le, ← lt_digitize_iff e he v 0 hl, ← lt_digitize_iff e he v (e.length - 1) (by omega)]
      omega
    · simp [List.length_eq_zero_iff.mp (Nat.eq_zero_of_not_pos hl), inRange, digitizeF, digitize]

theorem binIdx_isSome_iff (e : List Rat) (he : e.Pairwise (· ≤ ·)) (f : Freq) :
    (binIdx e f).isSome = inRange e f := by
  rw [Bool.eq_iff_iff, inRange_iff e he f, binIdx_eq]
  split
  · rename_i h; exact iff_of_true rfl h
  · rename_i h; exact iff_of_false nofun h

theorem sum_bins_inBin (e : List Rat) (he : e.Pairwise (· ≤ ·)) (f : Freq) (w : Rat) :
    ((List.range (e.length - 1)).map fun b => if inBin e b f then w else 0).sum =
      if inRange e f then w else 0 := by
  simp only [inBin_eq_decide e he, ← binIdx_isSome_iff e he]
  cases h : binIdx e f with
  | none => simp [sum_map_zero]
  | some k => simpa [binIdx_lt h] using sum_range_ite_lt (e.length - 1) k w

/-! ### `sumP` through the list constructors the row emitters are built from -/

theorem sumP_nil (p : Trip → Bool) : sumP p [] = 0 := rfl

theorem sumP_cons (p : Trip → Bool) (x : Trip) (ts : List Trip) :
    sumP p (x :: ts) = (if p x then x.val else 0) + sumP p ts := rfl

theorem sumP_append (p : Trip → Bool) (a b : List Trip) : sumP p (a ++ b) = sumP p a + sumP p b := by
  simp [sumP]

theorem sumP_map {α : Type} (p : Trip → Bool) (g : α → Trip) (l : List α) :
    sumP p (l.map g) = (l.map fun a => if p (g a) then (g a).val else 0).sum := by
  simp [sumP, Function.comp_def]

theorem sumP_flatMap {α : Type} (p : Trip → Bool) (g : α → List Trip) (l : List α) :
    sumP p (l.flatMap g) = (l.map fun a => sumP p (g a)).sum := by
  induction l with
  | nil => rfl
  | cons a t ih => rw [List.flatMap_cons, sumP_append, ih, List.map_cons, List.sum_cons]

theorem sumP_filterMap {α : Type} (p : Trip → Bool) (g : α → Option Trip) (l : List α) :
    sumP p (l.filterMap g) = (l.map fun a => ((g a).map fun x => if p x then x.val else 0).getD 0).sum := by
  induction l with
  | nil => rfl
  | cons a t ih =>
    rw [List.filterMap_cons, List.map_cons, List.sum_cons, ← ih]
    cases g a with
    | none => simp [Rat.zero_add]
    | some x => simp [sumP_cons]

theorem sumP_eq_zero (p : Trip → Bool) (ts : List Trip) (h : ∀ x ∈ ts, p x = false) : sumP p ts = 0 := by
  unfold sumP
  rw [sum_map_congr _ (fun _ => 0) ts fun x hx => by simp [h x hx], sum_map_zero]

/-! ### scatter-add is a table of per-cell sums -/

theorem tab_congr {α : Type} (nr nc : Nat) (g h : Nat → Nat → α) (hgh : ∀ r c, r < nr → c < nc → g r c = h r c) :
    tab nr nc g = tab nr nc h := by
  unfold tab
  apply List.map_congr_left
  intro r hr
  apply List.map_congr_left
  intro c hc
  exact hgh r c (List.mem_range.mp hr) (List.mem_range.mp hc)

theorem tab_shape {α : Type} (nr nc : Nat) (g : Nat → Nat → α) :
    (tab nr nc g).length = nr ∧ ∀ row ∈ tab nr nc g, row.length = nc := by
  unfold tab
  refine ⟨by simp, fun row hrow => ?_⟩
  obtain ⟨r, _, rfl⟩ := List.mem_map.mp hrow
  simp

theorem map_range_eq_map {α β : Type} (l : List α) (G : Nat → β) (f : α → β)
    (h : ∀ t (ht : t < l.length), G t = f l[t]) : (List.range l.length).map G = l.map f := by
  apply List.ext_getElem (by simp)
  intro t h1 _
  simp [h t (by simpa using h1)]

theorem modify_map_range {α : Type} (n i : Nat) (F : Nat → α) (f : α → α) :
    ((List.range n).map F).modify i f = (List.range n).map fun r => if i = r then f (F r) else F r := by
  apply List.ext_getElem
  · simp
  · intro j _ _
    simp [List.getElem_modify]

theorem addAt_tab (nr nc : Nat) (g : Nat → Nat → Rat) (x : Trip) :
    addAt (tab nr nc g) x =
      tab nr nc fun r c => g r c + (if decide (x.row = r) && decide (x.col = c) then x.val else 0) := by
  unfold addAt tab
  rw [modify_map_range]
  apply List.map_congr_left
  intro r _
  by_cases hr : x.row = r
  · simp only [hr, ite_true, modify_map_range, decide_true, Bool.true_and, decide_eq_true_eq]
    apply List.map_congr_left
    intro c _
    split <;> simp [Rat.add_zero]
  · simp [hr, Rat.add_zero]

theorem foldl_addAt_tab (nr nc : Nat) (ts : List Trip) (g : Nat → Nat → Rat) :
    ts.foldl addAt (tab nr nc g) = tab nr nc fun r c => g r c + sumIf ts r c := by
  induction ts generalizing g with
  | nil => simp [sumIf, sumP_nil, Rat.add_zero]
  | cons x xs ih =>
    rw [List.foldl_cons, addAt_tab, ih]
    apply tab_congr
    intro r c _ _
    simp only [sumIf, sumP_cons, Rat.add_assoc]

theorem toDense_eq_tab (nr nc : Nat) (ts : List Trip) : toDense nr nc ts = tab nr nc (sumIf ts) := by
  unfold toDense zerosMat
  rw [show List.replicate nr (List.replicate nc (0 : Rat)) = tab nr nc fun _ _ => 0 by
    simp [tab, List.map_const'], foldl_addAt_tab]
  exact tab_congr _ _ _ _ fun r c _ _ => Rat.zero_add _

theorem sum_tab_sumIf (nr nc : Nat) (ts : List Trip) :
    ((tab nr nc (sumIf ts)).map List.sum).sum =
      (ts.map fun x => if x.row < nr ∧ x.col < nc then x.val else 0).sum := by
  unfold tab sumIf sumP
  simp only [List.map_map, Function.comp_def]
  -- Σ_r Σ_c Σ_x → Σ_x Σ_r Σ_c; then one entry lands in one cell, if in any
  rw [sum_map_congr _ _ _ fun r _ => sum_map_comm (List.range nc) ts _, sum_map_comm]
  apply sum_map_congr
  intro x _
  simpa using sum_ite_and (List.range nr) (List.range nc) (fun r => decide (x.row = r)) (fun c => decide (x.col = c))
    (decide (x.row < nr)) (decide (x.col < nc)) (fun w => by simpa using sum_range_ite_lt nr x.row w)
    (fun w => by simpa using sum_range_ite_lt nc x.col w) x.val

/-! ### `cooFrom`: the rows' entries, row after row -/

theorem cooFrom_eq_flatMap {ρ : Type} (mk : Nat → ρ → List Trip) (t0 : Nat) (rows : List ρ) :
    cooFrom mk t0 rows = (rows.zipIdx t0).flatMap fun rt => mk rt.2 rt.1 := by
  induction rows generalizing t0 with
  | nil => rfl
  | cons r rs ih => simp [cooFrom, ih]

theorem mem_cooFrom {ρ : Type} (mk : Nat → ρ → List Trip) (x : Trip) (t0 : Nat) (rows : List ρ)
    (h : x ∈ cooFrom mk t0 rows) : ∃ i r, rows[i]? = some r ∧ x ∈ mk (t0 + i) r := by
  rw [cooFrom_eq_flatMap] at h
  obtain ⟨⟨r, t⟩, hrt, hx⟩ := List.mem_flatMap.mp h
  obtain ⟨hle, hr⟩ := List.mem_zipIdx_iff_le_and_getElem?_sub.mp hrt
  exact ⟨t - t0, r, hr, by rwa [Nat.add_sub_cancel' hle]⟩

theorem cooFrom_map {ρ σ : Type} {mk : Nat → ρ → List Trip} {mk' : Nat → σ → List Trip} {h : ρ → σ}
    (hmk : ∀ t r, mk t r = mk' t (h r)) (t0 : Nat) (rows : List ρ) :
    cooFrom mk t0 rows = cooFrom mk' t0 (rows.map h) := by
  induction rows generalizing t0 with
  | nil => rfl
  | cons r rs ih => rw [List.map_cons, cooFrom, cooFrom, hmk, ih]

theorem countP_cooFrom {ρ : Type} (mk : Nat → ρ → List Trip) (p : Trip → Bool) (n : ρ → Nat)
    (h : ∀ t r, (mk t r).countP p = n r) (t0 : Nat) (rows : List ρ) :
    (cooFrom mk t0 rows).countP p = (rows.map n).sum := by
  rw [cooFrom_eq_flatMap, List.countP_flatMap]
  simp only [Function.comp_def, h]
  conv => rhs; rw [← List.zipIdx_map_fst t0 rows, List.map_map]
  rfl

theorem length_cooFrom {ρ : Type} (mk : Nat → ρ → List Trip) (n : ρ → Nat) (h : ∀ t r, (mk t r).length = n r)
    (t0 : Nat) (rows : List ρ) : (cooFrom mk t0 rows).length = (rows.map n).sum := by
  rw [← List.countP_true]; exact countP_cooFrom mk _ n (by simpa using h) t0 rows

/-- The entries selected by `p` all carry the time index `t` in their key `k`, and time row `t'`
    only emits entries with key `t'`: the selected sum only sees time row `t`. -/
theorem sumP_cooFrom {ρ : Type} (mk : Nat → ρ → List Trip) (p : Trip → Bool) (k : Trip → Nat) (t : Nat)
    (hp : ∀ x, p x = true → k x = t) (hmk : ∀ t' r x, x ∈ mk t' r → k x = t')
    (t0 : Nat) (rows : List ρ) : sumP p (cooFrom mk t0 rows) =
      if t0 ≤ t then ((rows[t - t0]?).map fun r => sumP p (mk t r)).getD 0 else 0 := by
  have hz : ∀ t' r, t' ≠ t → sumP p (mk t' r) = 0 := fun t' r ht => sumP_eq_zero p _ fun x hx =>
    Bool.eq_false_iff.mpr fun hpx => ht ((hmk t' r x hx).symm.trans (hp x hpx))
  induction rows generalizing t0 with
  | nil => simp [cooFrom, sumP_nil]
  | cons r rs ih =>
    rw [cooFrom, sumP_append, ih (t0 + 1)]
    rcases Nat.lt_trichotomy t0 t with h | rfl | h
    · rw [hz t0 r (Nat.ne_of_lt h), Rat.zero_add, if_pos (Nat.succ_le_of_lt h), if_pos (Nat.le_of_lt h),
        show t - t0 = t - (t0 + 1) + 1 by omega, List.getElem?_cons_succ]
    · rw [if_neg (Nat.not_succ_le_self t0), Rat.add_zero, if_pos (Nat.le_refl t0), Nat.sub_self]; rfl
    · rw [hz t0 r (Nat.ne_of_gt h), Rat.zero_add, if_neg (by omega), if_neg (by omega)]

/-! ### hilberthuang -/

theorem mem_hhtRowTripsWith {bin : Freq → Option Nat} {energy : Bool} {t : Nat} {r : HRow} {x : Trip}
    (h : x ∈ hhtRowTripsWith bin energy t r) : x.col = t ∧ ∃ f, bin f = some x.row := by
  obtain ⟨fa, _, h2⟩ := List.mem_filterMap.mp h
  cases hb : bin fa.1 with
  | none => simp [hb] at h2
  | some b => simp [hb] at h2; subst h2; exact ⟨rfl, fa.1, hb⟩

theorem sumIf_hhtRowTrips (e : List Rat) (he : e.Pairwise (· ≤ ·)) (energy : Bool) (t : Nat) (r : HRow) (b : Nat) :
    sumIf (hhtRowTrips e energy t r) b t = rowSpec e energy r b := by
  unfold hhtRowTrips hhtRowTripsWith rowSpec sumIf
  rw [sumP_filterMap]
  apply sum_map_congr
  intro fa _
  rw [inBin_eq_decide e he]
  cases binIdx e fa.1 <;> simp

theorem sumIf_hhtCoo (e : List Rat) (he : e.Pairwise (· ≤ ·)) (energy : Bool) (F : List (List Freq))
    (A : List (List Rat)) (b t : Nat) (ht : t < (List.zip F A).length) :
    sumIf (hhtCoo e energy F A) b t = rowSpec e energy (List.zip F A)[t] b := by
  unfold hhtCoo sumIf
  rw [sumP_cooFrom (hhtRowTrips e energy) _ (·.col) t (fun _ hx => of_decide_eq_true (Bool.and_eq_true_iff.mp hx).2)
    (fun t' r x hx => (mem_hhtRowTripsWith hx).1) 0 (List.zip F A), if_pos (Nat.zero_le t), Nat.sub_zero,
    List.getElem?_eq_getElem ht]
  exact sumIf_hhtRowTrips e he energy t _ b

theorem length_hhtRowTrips (e : List Rat) (he : e.Pairwise (· ≤ ·)) (energy : Bool) (t : Nat) (r : HRow) :
    (hhtRowTrips e energy t r).length = (List.zip r.1 r.2).countP fun fa => inRange e fa.1 := by
  unfold hhtRowTrips hhtRowTripsWith
  rw [List.length_filterMap_eq_countP]
  simp [binIdx_isSome_iff e he]

/-! ### hilberthuang_1d -/

theorem digitizeF_nanOut_iff (e : List Rat) (he : e.Pairwise (· ≤ ·)) (f : Freq) (b : Nat) (hb : b + 1 < e.length) :
    digitizeF e (nanOut e f) = b + 1 ↔ inBin e b f = true := by
  rw [← digitizeF_eq_iff e he f b hb]
  cases f with
  | none => rfl
  | some v =>
    have hl : 0 < e.length := by omega
    simp only [nanOut, List.head?_eq_getElem?, List.getLast?_eq_getElem?, List.getElem?_eq_getElem hl,
      List.getElem?_eq_getElem (Nat.sub_one_lt (Nat.ne_of_gt hl))]
    split
    · -- a sample outside `[e[0], e[last]]` digitises to 0 or to `len`, like NaN to no bin
      rename_i hout
      simp only [digitizeF]
      rcases hout with h | h
      · have := (digitize_eq_zero_iff e he v hl).mpr h; omega
      · have := (digitize_eq_length_iff e he v hl).mpr (Rat.le_of_lt h); omega
    · rfl

theorem hht1dCell_eq_spec (e : List Rat) (he : e.Pairwise (· ≤ ·)) (energy : Bool) (rows : List HRow)
    (b j : Nat) (hb : b + 1 < e.length) : hht1dCell e energy rows b j = hht1dSpecCell e energy rows b j := by
  unfold hht1dCell hht1dSpecCell
  apply sum_map_congr
  intro r _
  cases (List.zip r.1 r.2)[j]? with
  | none => rfl
  | some fa => simp [← digitizeF_nanOut_iff e he fa.1 b hb]

end Spectra
