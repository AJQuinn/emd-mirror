/- What `paddedExtrema` (the model of `get_padded_extrema`) can return: always the `j`-fold padding of the detected
   extrema, `j` the least number of rounds that covers both edges; and why the re-padding loop returns (every round
   moves both ends outwards by at least 1). -/
import Proofs.Lemmas.ExtremaPad
import Proofs.Lemmas.ExtremaRefine

namespace Extrema

theorem sep_imp_lt {m : List Rat} (h : m.Pairwise (fun a b => a + 1 ≤ b)) : m.Pairwise (· < ·) :=
  h.imp fun hab => lt_of_lt_of_le (lt_add_one _) hab

/-! ### `padFrom` and its three cases -/

/-- `get_padded_extrema` after the mode switch: a function of the signal length `n` and the detected
    extrema `(l, e)` only -/
def padFrom (w n : Nat) (l e : List Rat) : PadResult :=
  if l.length ≤ 1 then .none
  else
    let w := if l.length < w then l.length else w
    if w = 0 then .ok l e
    else
      match padLoop w n (n + 1) (padOdd w l) (padEdge w e) with
      | some r => .ok r.1 r.2
      | none => .fuel

variable {w n : Nat} {m : Mode} {parab : Bool} {x : Sig}

theorem paddedExtrema_eq :
    paddedExtrema w m parab x = padFrom w x.length (extrema m parab x).1 (extrema m parab x).2 := by
  -- the tactic, not the term `rfl`: elaborating the term, the unifier works through the `Decidable` instances of both
  -- sides and is slow to check
  rfl

theorem padFrom_short {l e : List Rat} (h : l.length ≤ 1) : padFrom w n l e = .none := if_pos h

theorem padFrom_zero {l e : List Rat} (h : 2 ≤ l.length) : padFrom 0 n l e = .ok l e := by
  simp [padFrom, show ¬ l.length ≤ 1 by omega]

theorem padFrom_pos {l e : List Rat} (h : 2 ≤ l.length) (hw : 1 ≤ w) :
    padFrom w n l e =
      match padLoop (min w l.length) n (n + 1) (padOdd (min w l.length) l) (padEdge (min w l.length) e) with
      | some r => .ok r.1 r.2
      | none => .fuel := by
  have hw' : (if l.length < w then l.length else w) = min w l.length := by
    split
    · exact (Nat.min_eq_right (Nat.le_of_lt ‹_›)).symm
    · exact (Nat.min_eq_left (Nat.le_of_not_lt ‹_›)).symm
  have h0 : min w l.length ≠ 0 := Nat.ne_of_gt (Nat.lt_min.mpr ⟨hw, Nat.lt_of_lt_of_le Nat.zero_lt_two h⟩)
  rw [padFrom, if_neg (Nat.not_le.mpr h), hw', if_neg h0]

/-! ### the loop -/

theorem padLoop_rounds : ∀ (f : Nat) (l m : List Rat) (r : List Rat × List Rat),
    padLoop w n f l m = some r →
    ∃ j, j < f ∧ r = ((padOdd w)^[j] l, (padEdge w)^[j] m) ∧ needsMore n r.1 = false ∧
      ∀ i, i < j → needsMore n ((padOdd w)^[i] l) = true := by
  intro f
  induction f with
  | zero => intro l m r h; cases h
  | succ f ih =>
    intro l m r h
    rw [padLoop] at h
    split at h
    · rename_i hm
      obtain ⟨j, hj, hr, hn, hall⟩ := ih _ _ r h
      refine ⟨j + 1, Nat.succ_lt_succ hj, hr, hn, fun i hi => ?_⟩
      cases i with
      | zero => exact hm
      | succ i => exact hall i (Nat.lt_of_succ_lt_succ hi)
    · rename_i hm
      cases h
      exact ⟨0, Nat.zero_lt_succ f, rfl, Bool.eq_false_iff.mpr hm, fun i hi => absurd hi (Nat.not_lt_zero i)⟩

/-- `(l', e')` is `(l, e)` with `k` locations added on either side by a chain of reflection chunks and the
    magnitudes edge-replicated (`a`, `z` the first and last magnitude) -/
def PadInv (l e : List Rat) (a z : Rat) (k : Nat) (l' e' : List Rat) : Prop :=
  ∃ (L Rr : List Rat), l' = L ++ l ++ Rr ∧ L.length = k ∧ Rr.length = k ∧
    e' = List.replicate k a ++ e ++ List.replicate k z ∧ PadChain l l'

theorem PadInv.iterate {l e : List Rat} {a z : Rat} (w : Nat) (hl : 2 ≤ l.length)
    (ha : e.head? = some a) (hz : e.getLast? = some z) (j : Nat) :
    PadInv l e a z (j * w) ((padOdd w)^[j] l) ((padEdge w)^[j] e) := by
  induction j with
  | zero =>
    rw [Nat.zero_mul]
    exact ⟨[], [], (List.append_nil l).symm, rfl, rfl, (List.append_nil e).symm, PadChain.refl l⟩
  | succ j ih =>
    obtain ⟨L, Rr, hl', hL, hR, he', hch⟩ := ih
    obtain ⟨hch2, L2, R2, heq, hL2, hR2⟩ := padOdd_spec w ((padOdd w)^[j] l)
      (by rw [hl', List.length_append, List.length_append]; omega)
    rw [Function.iterate_succ_apply', Function.iterate_succ_apply']
    refine ⟨L2 ++ L, Rr ++ R2, ?_, ?_, ?_, ?_, hch.trans hch2⟩
    · rw [heq, hl']; simp only [List.append_assoc]
    · rw [List.length_append, hL2, hL, Nat.succ_mul, Nat.add_comm]
    · rw [List.length_append, hR, hR2, Nat.succ_mul]
    · rw [he', padEdge_sandwich a z e _ w ha hz, Nat.succ_mul]

/-! ### the loop terminates -/

theorem padOdd_progress (hw : 1 ≤ w) (l : List Rat) (hl : 2 ≤ l.length)
    (hs : l.Pairwise (fun a b => a + 1 ≤ b)) :
    (padOdd w l).Pairwise (fun a b => a + 1 ≤ b) ∧ 2 ≤ (padOdd w l).length ∧
      lmin (padOdd w l) + 1 ≤ lmin l ∧ lmax l + 1 ≤ lmax (padOdd w l) := by
  obtain ⟨hch, L, Rr, heq, hL, hR⟩ := padOdd_spec w l hl
  have hs' := hch.pairwise (reflRel_sep 1 (by decide +kernel)) hs
  have hne : l ≠ [] := List.ne_nil_of_length_pos (Nat.lt_of_lt_of_le Nat.zero_lt_two hl)
  have hLne : L ≠ [] := List.ne_nil_of_length_pos (hL ▸ hw)
  have hRne : Rr ≠ [] := List.ne_nil_of_length_pos (hR ▸ hw)
  rw [heq] at hs' ⊢
  -- the new first / last value is an added one, at least 1 from every value of the block
  have hp := List.pairwise_append.mp hs'
  refine ⟨hs', by rw [List.length_append, List.length_append]; omega, ?_, ?_⟩
  · rw [lmin_of_sorted _ (by simp [hLne]) (sep_imp_lt hs'), lmin_of_sorted l hne (sep_imp_lt hs),
      List.head_append_of_ne_nil (List.append_ne_nil_of_left_ne_nil hLne l), List.head_append_of_ne_nil hLne]
    exact (List.pairwise_append.mp hp.1).2.2 _ (List.head_mem hLne) _ (List.head_mem hne)
  · rw [lmax_of_sorted _ (by simp [hRne]) (sep_imp_lt hs'), lmax_of_sorted l hne (sep_imp_lt hs),
      List.getLast_append_of_ne_nil _ hRne]
    exact hp.2.2 _ (List.mem_append_right _ (List.getLast_mem hne)) _ (List.getLast_mem hRne)

theorem padLoop_terminates (hw : 1 ≤ w) :
    ∀ (f : Nat) (l e : List Rat), l.Pairwise (fun a b => a + 1 ≤ b) → 2 ≤ l.length →
      lmin l < (f : Rat) → (n : Rat) ≤ lmax l + (f : Rat) → (padLoop w n (f + 1) l e).isSome := by
  intro f
  induction f with
  | zero =>
    intro l e _ _ h1 h2
    rw [Nat.cast_zero] at h1 h2
    rw [padLoop, (needsMore_eq_false_iff n l).mpr ⟨h1, by rwa [add_zero] at h2⟩]
    rfl
  | succ f ih =>
    intro l e hs hl h1 h2
    rw [padLoop]
    split
    · obtain ⟨hs', hl', hmin, hmax⟩ := padOdd_progress hw l hl hs
      rw [Nat.cast_succ] at h1 h2
      exact ih _ _ hs' hl' ((add_lt_add_iff_right 1).mp (lt_of_le_of_lt hmin h1))
        (le_trans h2 (by rw [add_comm (f : Rat) 1, ← add_assoc]; exact (add_le_add_iff_right _).mpr hmax))
    · rfl

/-- `get_padded_extrema` returns for any locations at least 1 apart that lie strictly inside the signal: the
    `n + 1` rounds of the model's fuel are never used up -/
theorem padFrom_ne_fuel {l : List Rat} (e : List Rat) (hs : l.Pairwise (fun a b => a + 1 ≤ b))
    (hb : ∀ v ∈ l, 0 < v ∧ v < (n : Rat)) : padFrom w n l e ≠ .fuel := by
  by_cases hl : l.length ≤ 1
  · rw [padFrom_short hl]; exact PadResult.noConfusion
  have hl2 : 2 ≤ l.length := Nat.lt_of_not_le hl
  rcases Nat.eq_zero_or_pos w with rfl | hw
  · rw [padFrom_zero hl2]; exact PadResult.noConfusion
  rw [padFrom_pos hl2 hw]
  have hw' : 1 ≤ min w l.length := Nat.lt_min.mpr ⟨hw, Nat.lt_of_lt_of_le Nat.zero_lt_two hl2⟩
  have hne : l ≠ [] := List.ne_nil_of_length_pos (Nat.lt_of_lt_of_le Nat.zero_lt_two hl2)
  obtain ⟨hs', hl', hmin, hmax⟩ := padOdd_progress hw' l hl2 hs
  -- the unpadded ends lie inside (0, n), so after the first round they are within `n` of their targets
  have hmin0 : lmin l < (n : Rat) := by
    rw [lmin_of_sorted _ hne (sep_imp_lt hs)]; exact (hb _ (List.head_mem hne)).2
  have hmax0 : 0 < lmax l := by
    rw [lmax_of_sorted _ hne (sep_imp_lt hs)]; exact (hb _ (List.getLast_mem hne)).1
  have hsome := padLoop_terminates (n := n) hw' n _ (padEdge (min w l.length) e) hs' hl'
    ((lt_of_lt_of_le (lt_add_one _) hmin).trans hmin0)
    (le_add_of_nonneg_left (le_of_lt (hmax0.trans (lt_of_lt_of_le (lt_add_one _) hmax))))
  split
  · exact PadResult.noConfusion
  · rename_i hnone; rw [hnone] at hsome; cases hsome

/-! ### the result -/

/-- Everything `get_padded_extrema` returns is the `j`-fold padding of the detected extrema with the effective
    width `min w #extrema`: `j = 0` for pad width 0, otherwise `j = r + 1` is the least number of rounds after
    which the loop condition is false. -/
theorem paddedExtrema_iterate {locs mags : List Rat}
    (h : paddedExtrema w m parab x = .ok locs mags) :
    2 ≤ (extrema m parab x).1.length ∧ ∃ j,
      locs = (padOdd (min w (extrema m parab x).1.length))^[j] (extrema m parab x).1 ∧
      mags = (padEdge (min w (extrema m parab x).1.length))^[j] (extrema m parab x).2 ∧
      (w = 0 → j = 0) ∧
      (1 ≤ w → ∃ r, j = r + 1 ∧ r ≤ x.length ∧ needsMore x.length locs = false ∧
        ∀ i, i < r →
          needsMore x.length ((padOdd (min w (extrema m parab x).1.length))^[i + 1] (extrema m parab x).1) = true) := by
  rw [paddedExtrema_eq] at h
  by_cases hl : (extrema m parab x).1.length ≤ 1
  · rw [padFrom_short hl] at h; cases h
  have hl2 : 2 ≤ (extrema m parab x).1.length := Nat.lt_of_not_le hl
  refine ⟨hl2, ?_⟩
  rcases Nat.eq_zero_or_pos w with rfl | hw
  · rw [padFrom_zero hl2] at h; cases h
    exact ⟨0, rfl, rfl, fun _ => rfl, fun h => absurd h (Nat.not_succ_le_zero 0)⟩
  · rw [padFrom_pos hl2 hw] at h
    split at h
    · rename_i r hloop
      cases h
      -- the loop is entered after the first round of padding: `j` further rounds make `j + 1`
      obtain ⟨j, hj, hr, hn, hall⟩ := padLoop_rounds _ _ _ r hloop
      exact ⟨j + 1, by rw [hr]; rfl, by rw [hr]; rfl, fun h => absurd hw (h ▸ Nat.lt_irrefl 0),
        fun _ => ⟨j, rfl, Nat.le_of_lt_succ hj, hn, hall⟩⟩
    · cases h

theorem head?_getLast?_of_two {e : List Rat} (h : 2 ≤ e.length) : ∃ a z, e.head? = some a ∧ e.getLast? = some z := by
  match e, h with
  | a :: b :: t, _ => exact ⟨a, _, rfl, List.getLast?_eq_some_getLast (by simp)⟩

theorem paddedExtrema_ok {locs mags : List Rat}
    (h : paddedExtrema w m parab x = .ok locs mags) :
    2 ≤ (extrema m parab x).1.length ∧
    ∃ a z k, (extrema m parab x).2.head? = some a ∧ (extrema m parab x).2.getLast? = some z ∧
      PadInv (extrema m parab x).1 (extrema m parab x).2 a z k locs mags ∧ (w = 0 → k = 0) := by
  obtain ⟨hl2, j, rfl, rfl, h0, -⟩ := paddedExtrema_iterate h
  obtain ⟨a, z, ha, hz⟩ := head?_getLast?_of_two (extrema_length m parab x ▸ hl2)
  exact ⟨hl2, a, z, _, ha, hz, PadInv.iterate _ hl2 ha hz j, fun hw => by rw [h0 hw, Nat.zero_mul]⟩

end Extrema
