/- Lemmas about the per-cycle statistics of EmdModel.CycleStats: `gather` over `whereEq` selects the values by label, and the
   per-cycle loop `sequence`. -/
import EmdModel.CycleStats
import Proofs.Lemmas.Maps

namespace CycleStats
open Maps

/-! ### gathering the samples of one label -/

theorem gather_whereEq (vals : List Rat) (cv : List Int) (k : Nat) :
    gather vals (whereEq cv k) = valuesWithLabel vals cv k := by
  rw [gather, whereEq, whereFrom_eq]
  exact (List.filter_zip_positions' (fun l => decide (l = (k : Int))) cv vals).symm

theorem cycleStat_eq {β : Type} (f : List Rat → β) (vals : List Rat) (cv : List Int) :
    cycleStat f vals cv = (List.range (nLabels cv)).map fun k => f (valuesWithLabel vals cv k) := by
  unfold cycleStat mapCycleToSamples
  simp only [gather_whereEq]

/-! ### the per-cycle loop -/

theorem sequence_eq_ok_iff {α : Type} {l : List (Except Err α)} {r : List α} :
    sequence l = .ok r ↔ l = r.map .ok := by
  induction l generalizing r with
  | nil => cases r <;> simp [sequence]
  | cons e t ih =>
    cases e with
    | error err => cases r <;> simp [sequence]
    | ok a =>
      cases r with
      | nil => cases hs : sequence t <;> simp [sequence, hs]
      | cons b r =>
        simp only [sequence, List.map_cons, List.cons.injEq, Except.ok.injEq, ← ih]
        cases sequence t <;> simp

theorem sequence_ok {α : Type} (l : List α) : sequence (l.map (Except.ok (ε := Err))) = .ok l :=
  sequence_eq_ok_iff.mpr rfl

theorem sequence_ok_getElem? {α : Type} {l : List (Except Err α)} {r : List α} (h : sequence l = .ok r) :
    r.length = l.length ∧
    ∀ (k : Nat) (e : Except Err α), l[k]? = some e → ∃ a : α, e = Except.ok a ∧ r[k]? = some a := by
  rw [sequence_eq_ok_iff.mp h]
  refine ⟨by simp, fun k e he => ?_⟩
  cases hr : r[k]? with
  | none => simp [hr] at he
  | some a => exact ⟨a, by simpa [hr] using he.symm, rfl⟩

theorem sequence_map_ite {α β : Type} (l : List α) (p : α → Prop) [DecidablePred p] (g : α → β) (e : Err) :
    sequence (l.map fun a => if p a then Except.ok (g a) else .error e) =
      if ∀ a ∈ l, p a then .ok (l.map g) else .error e := by
  induction l with
  | nil => simp [sequence]
  | cons a t ih =>
    simp only [List.map_cons, List.forall_mem_cons]
    by_cases ha : p a
    · rw [if_pos ha, sequence, ih]
      simp only [ha, true_and]
      by_cases ht : ∀ b ∈ t, p b
      · rw [if_pos ht, if_pos ht]
      · rw [if_neg ht, if_neg ht]
    · simp [sequence, ha]

/-! ### `get_cycle_stat` with a reducing function that never raises -/

theorem getCycleStat_total {f : List Rat → Rat} {vals : List Rat} {cv : List Int}
    (hne : cv ≠ []) (hlen : cv.length = vals.length) (samples : Bool) :
    getCycleStat (fun l => .ok (some (f l))) vals cv samples =
      .ok (if samples then
          projectCyclesToSamples ((List.range (nLabels cv)).map fun k => some (f (valuesWithLabel vals cv k))) cv
        else (List.range (nLabels cv)).map fun k => some (f (valuesWithLabel vals cv k))) := by
  unfold getCycleStat
  rw [if_neg (by simpa using hne), if_neg (by omega), cycleStat_eq]
  have := sequence_ok ((List.range (nLabels cv)).map fun k => some (f (valuesWithLabel vals cv k)))
  rw [List.map_map] at this
  simp only [Function.comp_def] at this
  rw [this]

end CycleStats
