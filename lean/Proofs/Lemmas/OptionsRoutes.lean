/-
  The delivery routes of the option model: what keyword arguments each route hands to the variant (keyword dictionaries;
  an edited `get_config(...)`, unpacked or as a partial), that they bind for well-formed user options, and that the three
  option values among them are the user's dictionaries — as they are, or written over stored defaults that repeat the
  signature defaults.
-/
import Proofs.Lemmas.OptionsVariants
import Proofs.Lemmas.ComposeDefaults

namespace Options
open Config Config.Assoc

/-! ### what the user supplied -/

def optA (o : Option Assoc) : Assoc := o.getD .nil

/-- the three option dictionaries are given through `imf` / `env` / `ext`, not smuggled into `top` -/
structure TopClean (top : Assoc) : Prop where
  imf : top.lookup "imf_opts".toList = none
  env : top.lookup "envelope_opts".toList = none
  ext : top.lookup "extrema_opts".toList = none

/-- well-formed user input: the three dictionaries are passed as such (not hidden among the other
    keywords), are dictionaries (no repeated key), and option names contain no '/' (they are
    identifiers; needed only by the key-path edits of the configuration routes) -/
structure WF (u : User) : Prop where
  clean : TopClean u.top
  topSlash : ∀ p ∈ u.top.keys, '/' ∉ p
  imfSlash : ∀ p ∈ (optA u.imf).keys, '/' ∉ p
  envSlash : ∀ p ∈ (optA u.env).keys, '/' ∉ p
  extSlash : ∀ p ∈ (optA u.ext).keys, '/' ∉ p
  imfNodup : NodupKeys (optA u.imf)
  envNodup : NodupKeys (optA u.env)
  extNodup : NodupKeys (optA u.ext)

/-- the IMF-extraction options the user gave: `imf_opts`, or — for `get_next_imf` itself — its keywords -/
def userImf : Variant → User → Assoc
  | .nextImf, u => u.top
  | .second v, u => userImf v u
  | _, u => optA u.imf

/-- the configuration routes exist for the four variants `get_config` knows -/
def Configurable (v : Variant) : Prop :=
  baseVariant v = .sift ∨ baseVariant v = .ensemble ∨ baseVariant v = .complete ∨ baseVariant v = .mask

/-- **well-formed user options** for variant `v`: every name is a parameter of the function it is meant for, no name
    is given twice, the interpolation method and the noise mode (when given) are valid values, and — `get_next_imf`
    having no `imf_opts` parameter — IMF options for `get_next_imf` itself are given as its keywords.
    (That the three stage options are dictionaries or absent is the type of `User`; `WF`: they are not hidden among the
    other keywords and names contain no '/'.) -/
structure Known (v : Variant) (u : User) : Prop where
  wf : WF u
  topKnown : ∀ p ∈ u.top.keys, p ∈ topKeys v
  topNodup : NodupKeys u.top
  imfKnown : ∀ p ∈ (optA u.imf).keys, p ∈ gniOwn.keys
  envKnown : ∀ p ∈ (optA u.env).keys, p ∈ ieOwn.keys
  extKnown : ∀ p ∈ (optA u.ext).keys, p ∈ gpeOwn.keys
  method : ∀ m, (optA u.env).lookup "interp_method".toList = some m → okMethod m = true
  noiseMode : ∀ m, u.top.lookup "noise_mode".toList = some m → okNoiseMode m = true
  noImf : baseVariant v = .nextImf → u.imf = none

/-! ### an optional dictionary as a keyword -/

def optT : Option Assoc → Tree
  | none => none'
  | some a => .dict a

theorem lookup_optEntry (name : String) (o : Option Assoc) (p : Key) :
    (optEntry name o).lookup p = if name.toList = p then o.map .dict else none := by
  cases o <;> simp [optEntry, Assoc.lookup]

theorem keys_optEntry_sublist (name : String) (o : Option Assoc) : (optEntry name o).keys.Sublist [name.toList] := by
  cases o <;> simp [optEntry, keys]

theorem getD_map_dict (o : Option Assoc) : (o.map Tree.dict).getD Tree.none = optT o := by cases o <;> rfl

theorem dictOf_optT (o : Option Assoc) : dictOf (optT o) = optA o := by cases o <;> rfl

theorem optOK_optT {P : Assoc → Prop} {o : Option Assoc} (h : P (optA o)) : OptOK isNone P (optT o) := by
  cases o with
  | none => exact Or.inl rfl
  | some a => exact Or.inr ⟨a, rfl, h⟩

theorem OptOK.optA {c : Tree → Bool} {P : Assoc → Prop} {o : Option Assoc} (hc : Absent c) (hP : P .nil)
    (h : OptOK c P (optT o)) : P (optA o) := by
  rw [← dictOf_optT]
  rcases h with h | ⟨a, e, ha⟩
  · rw [hc _ h]; exact hP
  · rw [e]; exact ha

/-! ### route A: keyword dictionaries -/

variable {r : Route} {v : Variant} {u : User}

theorem lookup_opt3 (top : Assoc) (n1 n2 n3 : String) (o1 o2 o3 : Option Assoc) (h12 : n1.toList ≠ n2.toList)
    (h13 : n1.toList ≠ n3.toList) (h23 : n2.toList ≠ n3.toList) (p : Key) :
    (top.append ((optEntry n1 o1).append ((optEntry n2 o2).append (optEntry n3 o3)))).lookup p =
      (top.lookup p).orElse fun _ => if n1.toList = p then o1.map .dict else if n2.toList = p then o2.map .dict
        else if n3.toList = p then o3.map .dict else none := by
  simp only [lookup_append, lookup_optEntry]
  congr 1; funext _
  by_cases h1 : n1.toList = p
  · subst h1; cases o1 <;> simp [h12.symm, h13.symm]
  · by_cases h2 : n2.toList = p
    · subst h2; cases o2 <;> simp [h1, h23.symm]
    · simp [h1, h2]

theorem lookup_kwargsDirect (p : Key) :
    (kwargsDirect u).lookup p = (u.top.lookup p).orElse fun _ =>
      if "imf_opts".toList = p then u.imf.map .dict else if "envelope_opts".toList = p then u.env.map .dict
      else if "extrema_opts".toList = p then u.ext.map .dict else none :=
  lookup_opt3 _ _ _ _ _ _ _ optKeys_ne.1 optKeys_ne.2.1 optKeys_ne.2.2 p

theorem kwArg_direct (h : TopClean u.top) :
    kwArg (kwargsDirect u) "imf_opts" = optT u.imf ∧ kwArg (kwargsDirect u) "envelope_opts" = optT u.env ∧
    kwArg (kwargsDirect u) "extrema_opts" = optT u.ext := by
  obtain ⟨n12, n13, n23⟩ := optKeys_ne
  simp only [kwArg, lookup_kwargsDirect, h.imf, h.env, h.ext, Option.orElse_none, if_true, if_neg n12, if_neg n13,
    if_neg n23, getD_map_dict, and_self]

theorem lookup_direct_top {p : Key} (h : p ∉ optKeys) : (kwargsDirect u).lookup p = u.top.lookup p := by
  obtain ⟨h1, h2, h3⟩ := ne_optKeys h
  rw [lookup_kwargsDirect, if_neg h1.symm, if_neg h2.symm, if_neg h3.symm]
  cases u.top.lookup p <;> rfl

theorem keys_opt3 (n1 n2 n3 : String) (o1 o2 o3 : Option Assoc) :
    ((optEntry n1 o1).append ((optEntry n2 o2).append (optEntry n3 o3))).keys.Sublist
        [n1.toList, n2.toList, n3.toList] ∧
      (o1 = none → ((optEntry n1 o1).append ((optEntry n2 o2).append (optEntry n3 o3))).keys.Sublist
        [n2.toList, n3.toList]) := by
  simp only [keys_append]
  refine ⟨(keys_optEntry_sublist n1 o1).append ((keys_optEntry_sublist n2 o2).append (keys_optEntry_sublist n3 o3)),
    fun h => ?_⟩
  subst h
  exact (keys_optEntry_sublist n2 o2).append (keys_optEntry_sublist n3 o3)

theorem Known.second {v : Variant} {u : User} (h : Known (.second v) u) : Known v u :=
  ⟨h.wf, h.topKnown, h.topNodup, h.imfKnown, h.envKnown, h.extKnown, h.method, h.noiseMode, h.noImf⟩

theorem Known.goodImf (h : Known v u) : GoodImf (optA u.imf) :=
  good_iff.2 ⟨h.imfKnown, h.wf.imfNodup⟩
theorem Known.goodEnv (h : Known v u) : GoodEnv (optA u.env) :=
  (goodEnv_iff _).2 ⟨good_iff.2 ⟨h.envKnown, h.wf.envNodup⟩, h.method⟩
theorem Known.goodExt (h : Known v u) : GoodExt (optA u.ext) :=
  good_iff.2 ⟨h.extKnown, h.wf.extNodup⟩

theorem noise_not_opt : "noise_mode".toList ∉ optKeys := fun h =>
  (sigOf_spec .ensemble).1.top_ne_opt noise_mem_top h rfl

theorem okNoiseMode_getD {o : Option Tree} (h : ∀ m, o = some m → okNoiseMode m = true) :
    okNoiseMode (o.getD (s "single")) = true := by
  cases o with
  | none => exact okNoiseMode_single
  | some m => exact h m rfl

theorem Known.kwOK_direct (h : Known v u) : KwOK v (kwargsDirect u) where
  binds := by
    obtain ⟨hs, _⟩ := sigOf_spec v
    obtain ⟨h3, h2⟩ := keys_opt3 "imf_opts" "envelope_opts" "extrema_opts" u.imf u.env u.ext
    refine good_append (good_iff.2 ⟨h.topKnown, h.topNodup⟩) (good_of_sublist ?_ hs.nodup_opts)
      fun _ hp _ hq => hs.top_ne_opt hp hq
    unfold optsOf
    split
    · next hb => exact h2 (h.noImf hb)
    · exact h3
  noise _ := by rw [lookup_direct_top noise_not_opt]; exact okNoiseMode_getD h.noiseMode
  imf _ := by rw [(kwArg_direct h.wf.clean).1]; exact optOK_optT h.goodImf
  rest := by
    rw [(kwArg_direct h.wf.clean).2.1, (kwArg_direct h.wf.clean).2.2]
    exact ⟨optOK_optT h.goodEnv, (optOK_optT h.goodExt).imp_left falsy_of_isNone⟩

theorem userImf_eq : ∀ (v : Variant) (u : User), userImf v u = if baseVariant v = .nextImf then u.top else optA u.imf
  | .second v, u => userImf_eq v u
  | .nextImf, _ => rfl
  | .sift, _ => rfl | .ensemble, _ => rfl | .complete, _ => rfl | .mask, _ => rfl
  | .nextImfMask, _ => rfl | .maskFreqs, _ => rfl | .maskSecond, _ => rfl

/-! ### routes B and C: an edited `get_config(...)` -/

theorem Configurable.mem (h : Configurable v) : baseVariant v ∈ [Variant.sift, .ensemble, .complete, .mask] := by
  rcases h with h | h | h | h <;> simp [h]

theorem Configurable.ne_nextImf (h : Configurable v) : baseVariant v ≠ .nextImf := by
  rcases h with h | h | h | h <;> rw [h] <;> decide

/-- `get_config` raises AttributeError for an entry point it does not know -/
theorem not_configurable_error (h : ¬ Configurable v) :
    kwargsConfig (baseVariant v) u = .error .attributeError := by
  have hw : baseVariant v ∈ [Variant.nextImfMask, .maskFreqs, .nextImf] := by
    induction v with
    | second v ih => exact ih h
    | _ => simp [Configurable, baseVariant] at h ⊢
  simp [kwargsConfig, getConfig, not_siftType _ hw, bind, Except.bind]

theorem editAll_nil : ∀ (a : Assoc) (store : Tree), editAll [] store a = assignAll store a
  | .nil, _ => rfl
  | .cons p v r, store => by simp only [editAll, assignAll, List.nil_append, editAll_nil r]

/-- `for key, v in opts.items(): cfg['stage/' + key] = v` rewrites the `stage` entry -/
theorem editAll_stage (stage : Key) (hs : '/' ∉ stage) : ∀ (a st cur : Assoc),
    st.lookup stage = some (.dict cur) → (∀ p ∈ a.keys, '/' ∉ p) →
    editAll (stage ++ ['/']) (.dict st) a = .ok (.dict (st.insert stage (.dict (assignA cur a))))
  | .nil, st, cur, hl, _ => by simp [editAll, assignA, insert_lookup_self stage (.dict cur) st hl]
  | .cons p d r, st, cur, hl, h => by
    have hp : '/' ∉ p := h p (by simp [Assoc.keys])
    have ih := editAll_stage stage hs r (st.insert stage (.dict (cur.insert p d))) (cur.insert p d)
      (Assoc.lookup_insert_same _ _ _) (fun q hq => h q (by simp [Assoc.keys, hq]))
    rw [insert_insert_same] at ih
    simp only [editAll, List.append_assoc, List.singleton_append, cfgSet_two hs hp hl, bind, Except.bind, ih, assignA]

theorem editStage_dict {st cur : Assoc} {name : String} (hs : '/' ∉ name.toList) (o : Option Assoc)
    (hl : st.lookup name.toList = some (.dict cur)) (h : ∀ p ∈ (optA o).keys, '/' ∉ p) :
    editStage (.dict st) name o = .ok (.dict (st.insert name.toList (.dict (assignA cur (optA o))))) := by
  cases o with
  | none => simp [editStage, optA, assignA, insert_lookup_self _ _ st hl]
  | some a => exact editAll_stage name.toList hs a st cur hl h

/-- the keyword arguments of the configuration routes, explicitly -/
def configKw (w : Variant) (u : User) : Assoc :=
  (((assignA (cfgStore w) u.top).insert "imf_opts".toList (.dict (assignA gniOwn (optA u.imf)))).insert
    "envelope_opts".toList (.dict (assignA envDefaults (optA u.env)))).insert
    "extrema_opts".toList (.dict (assignA extDefaults (optA u.ext)))

theorem kwargsConfig_eq {w : Variant} (hw : w ∈ [Variant.sift, .ensemble, .complete, .mask]) (hu : WF u) :
    kwargsConfig w u = .ok (configKw w u) := by
  obtain ⟨n12, n13, n23⟩ := optKeys_ne
  obtain ⟨c1, c2, c3⟩ := lookup_cfgStore w
  have e2 := editStage_dict (optKeys_noSlash _ imf_mem) u.imf ((lookup_assignA_of_none hu.clean.imf).trans c1) hu.imfSlash
  have e3 := editStage_dict (optKeys_noSlash _ env_mem) u.env
    ((lookup_insert_other _ _ (.dict (assignA gniOwn (optA u.imf))) n12.symm _).trans ((lookup_assignA_of_none hu.clean.env).trans c2))
    hu.envSlash
  have e4 := editStage_dict (optKeys_noSlash _ ext_mem) u.ext ((lookup_insert_other _ _ (.dict (assignA envDefaults (optA u.env)))
    n23.symm _).trans ((lookup_insert_other _ _ (.dict (assignA gniOwn (optA u.imf))) n13.symm _).trans
      ((lookup_assignA_of_none hu.clean.ext).trans c3))) hu.extSlash
  simp only [kwargsConfig, getConfig_model hw, editAll_nil, assignAll_dict u.top _ hu.topSlash, e2, e3, e4, bind, Except.bind,
    unpack, configKw]

theorem kwArg_configKw (w : Variant) :
    kwArg (configKw w u) "imf_opts" = .dict (assignA gniOwn (optA u.imf)) ∧
    kwArg (configKw w u) "envelope_opts" = .dict (assignA envDefaults (optA u.env)) ∧
    kwArg (configKw w u) "extrema_opts" = .dict (assignA extDefaults (optA u.ext)) := by
  obtain ⟨n12, n13, n23⟩ := optKeys_ne
  refine ⟨?_, ?_, ?_⟩ <;> unfold kwArg configKw
  · rw [lookup_insert_other _ _ _ n13, lookup_insert_other _ _ _ n12, lookup_insert_same]; rfl
  · rw [lookup_insert_other _ _ _ n23, lookup_insert_same]; rfl
  · rw [lookup_insert_same]; rfl

theorem lookup_configKw_top (w : Variant) {q : Key} (hq : q ∉ optKeys) :
    (configKw w u).lookup q = (assignA (cfgStore w) u.top).lookup q := by
  obtain ⟨h1, h2, h3⟩ := ne_optKeys hq
  rw [configKw, lookup_insert_other _ _ _ h3, lookup_insert_other _ _ _ h2, lookup_insert_other _ _ _ h1]

theorem topKeys_baseVariant : ∀ v : Variant, topKeys v = topKeys (baseVariant v)
  | .second v => topKeys_baseVariant v
  | .maskSecond => rfl
  | .sift => rfl | .ensemble => rfl | .complete => rfl | .mask => rfl
  | .nextImfMask => rfl | .maskFreqs => rfl | .nextImf => rfl

theorem configurable_shape {w : Variant} (hw : w ∈ [Variant.sift, .ensemble, .complete, .mask]) :
    VariantSig (sigOf w) [] (topKeys w) optKeys := by
  simp only [List.mem_cons, List.not_mem_nil, or_false] at hw
  rcases hw with rfl | rfl | rfl | rfl <;> exact (sigOf_spec _).1

/-- the user's entries `a` written over stored defaults `dflt` that agree with the signature default `d` as `f` sees
    it (`f`: the identity, `effVal p`, a validity test): as `f` sees it, the user's entries -/
theorem assignA_own_lookup {β : Type} {dflt : Assoc} (a : Assoc) (hn : NodupKeys a) {f : Tree → β}
    {p : Key} {d : Tree} (hd : f ((dflt.lookup p).getD d) = f d) :
    f (((assignA dflt a).lookup p).getD d) = f ((a.lookup p).getD d) := by
  rw [lookup_assignA a dflt p hn]
  cases a.lookup p with
  | some v => rfl
  | none => exact hd

theorem Known.kwOK_config (h : Known v u) (hc : Configurable v) :
    KwOK v (configKw (baseVariant v) u) where
  binds := by
    have e3 := topKeys_baseVariant v
    have hs := configurable_shape hc.mem
    rw [optsOf, if_neg hc.ne_nextImf, e3]
    have hkeys : (sigOf (baseVariant v)).keys = topKeys (baseVariant v) ++ optKeys := by rw [hs.1, List.nil_append]
    -- the default store and the edited one are both: entries written over a dictionary, then the three option entries
    have ins3 : ∀ {a : Assoc} (v1 v2 v3 : Tree), Good (topKeys (baseVariant v) ++ optKeys) a →
        Good (topKeys (baseVariant v) ++ optKeys)
          (((a.insert "imf_opts".toList v1).insert "envelope_opts".toList v2).insert "extrema_opts".toList v3) :=
      fun _ _ _ h => ((h.insert (List.mem_append_right _ imf_mem) _).insert (List.mem_append_right _ env_mem) _).insert
        (List.mem_append_right _ ext_mem) _
    exact ins3 _ _ _ (good_assignA (ins3 _ _ _ (good_assignA (good_nil _) fun q hq =>
      hkeys ▸ (keys_functionOpts_sub _ _ q hq).1)) fun q hq => List.mem_append_left _ (e3 ▸ h.topKnown q hq))
  noise hb := by
    obtain ⟨n1, n2, n3⟩ := ne_optKeys noise_not_opt
    rw [lookup_configKw_top _ noise_not_opt, assignA_own_lookup (f := okNoiseMode) _ h.topNodup]
    · exact okNoiseMode_getD h.noiseMode
    · rw [hb, cfgStore, lookup_defaultStore_top _ _ n1 n2 n3,
        if_neg noise_not_ignored, show (sigOf .ensemble).lookup _ = _ from ensSig_noise]
      rfl
  imf _ := by
    rw [(kwArg_configKw _).1]
    exact Or.inr ⟨_, rfl, good_assignA (good_self (List.nodup_append.1 gniStage.nodup_append).1) h.imfKnown⟩
  rest := by
    rw [(kwArg_configKw _).2.1, (kwArg_configKw _).2.2]
    refine ⟨Or.inr ⟨_, rfl, (goodEnv_iff _).2 ⟨good_assignA good_envDefaults h.envKnown, (okMethod_getD _).1 ?_⟩⟩,
      Or.inr ⟨_, rfl, good_assignA good_extDefaults h.extKnown⟩⟩
    rw [assignA_own_lookup (f := okMethod) _ h.wf.envNodup (by rw [getD_of_resolve_eq envDefaults_resolve ieOwn_method])]
    exact (okMethod_getD _).2 h.method

/-! ### `emit`: the route's keywords, then the variant -/

/-- the keyword arguments route `r` hands to variant `v` (where the route exists) -/
def routeKw (r : Route) (v : Variant) (u : User) : Assoc :=
  if r = .direct then kwargsDirect u else configKw (baseVariant v) u

/-- route `r` exists for variant `v` (`C06.RouteExists`) -/
def RouteOK (r : Route) (v : Variant) : Prop := r = .direct ∨ Configurable v ∧ (r = .getFunc → takesFunc v = true)

theorem emit_eq_run (legacy : Bool) (hu : WF u) (hr : RouteOK r v) :
    emit legacy r v u = runVariant legacy v (routeKw r v u) := by
  cases r with
  | direct => rfl
  | unpackCfg =>
    obtain ⟨hc, _⟩ := hr.resolve_left (by decide)
    simp only [emit, kwargsConfig_eq hc.mem hu]
    rfl
  | getFunc =>
    obtain ⟨hc, hf⟩ := hr.resolve_left (by decide)
    simp only [emit, hf rfl, if_true, kwargsConfig_eq hc.mem hu, Except.map, partialCall, append_nil]
    rfl

theorem emit_missing (legacy : Bool) (hr : ¬ RouteOK r v) :
    (takesFunc v = false ∧ r = .getFunc ∧ emit legacy r v u = .error .typeError) ∨
    (¬ Configurable v ∧ emit legacy r v u = .error .attributeError) := by
  cases r with
  | direct => exact absurd (Or.inl rfl) hr
  | unpackCfg =>
    have hc : ¬ Configurable v := fun hc => hr (Or.inr ⟨hc, fun e => by cases e⟩)
    exact Or.inr ⟨hc, by simp only [emit, not_configurable_error hc]; rfl⟩
  | getFunc =>
    cases hf : takesFunc v with
    | false => exact Or.inl ⟨rfl, rfl, by simp only [emit, hf]; rfl⟩
    | true =>
      have hc : ¬ Configurable v := fun hc => hr (Or.inr ⟨hc, fun _ => hf⟩)
      exact Or.inr ⟨hc, by simp only [emit, hf, if_true, not_configurable_error hc]; rfl⟩

theorem Known.kwOK (h : Known v u) (hr : RouteOK r v) : KwOK v (routeKw r v u) := by
  unfold routeKw
  split
  · exact h.kwOK_direct
  · next hd => exact h.kwOK_config (hr.resolve_left hd).1

def ownOf : Stage → Assoc
  | .gni => gniOwn
  | .ie => ieOwn
  | .gpe => gpeOwn

theorem obeys_mem {imf env ext : Assoc} {cs : List StageCall} (h : Obeys imf env ext cs) (c : StageCall) (hc : c ∈ cs) :
    ∀ p d, (ownOf c.stage).lookup p = some d →
      (c.args.lookup p).map (effVal p) = some (effVal p (((match c.stage with
        | .gni => imf | .ie => env | .gpe => ext).lookup p).getD d)) := by
  obtain ⟨chains, rfl, hch⟩ := h
  obtain ⟨ch, hm, hcm⟩ := List.mem_flatten.mp hc
  obtain ⟨a, aU, gU, aL, gL, rfl, g1, _, _, g4, _, _, g7⟩ := (hch ch hm).shape
  intro p d hp
  simp only [List.mem_cons, List.not_mem_nil, or_false] at hcm
  rcases hcm with rfl | rfl | rfl | rfl | rfl
  · rw [g1 p d hp, Option.map_some]
  · rw [(g4 p d hp).1, Option.map_some]
  · exact (g7 p d hp).1
  · rw [(g4 p d hp).2, Option.map_some]
  · exact (g7 p d hp).2

/-- the three dictionaries arrive as supplied (keyword route), or written over stored defaults that repeat the signature
    defaults (configuration routes) -/
theorem RanV.obeys_user {cs : List StageCall} (hu : WF u) (hr : RouteOK r v) (h : RanV v (routeKw r v u) cs) :
    Obeys (userImf v u) (optA u.env) (optA u.ext) cs := by
  have ob := h.1
  unfold routeKw at ob
  split at ob
  · rw [(kwArg_direct hu.clean).2.1, (kwArg_direct hu.clean).2.2, dictOf_optT, dictOf_optT] at ob
    refine ob.congr (fun p d hp => ?_) (fun _ _ _ => rfl) (fun _ _ _ => rfl)
    -- for `get_next_imf` itself the IMF options are its other keywords: none of its own options is an option key
    rw [userImf_eq, imfOf]
    split
    · rw [lookup_direct_top (own_not_opt p (mem_keys_of_lookup hp))]
    · rw [(kwArg_direct hu.clean).1, dictOf_optT]
  · next hd =>
    have hb := (hr.resolve_left hd).1.ne_nextImf
    rw [imfOf, if_neg hb, (kwArg_configKw _).1, (kwArg_configKw _).2.1, (kwArg_configKw _).2.2] at ob
    rw [userImf_eq, if_neg hb]
    exact ob.congr (fun p d hp => assignA_own_lookup (f := id) _ hu.imfNodup (by rw [hp]; rfl))
      (fun p d hp => assignA_own_lookup (f := id) _ hu.envNodup (getD_of_resolve_eq envDefaults_resolve hp))
      (fun p d hp => assignA_own_lookup _ hu.extNodup (extDefaults_agree hp))

end Options
