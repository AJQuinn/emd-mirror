/-
  `countP` of a predicate that holds on a prefix of the list: the one fact behind every bracket lemma about
  `np.digitize` (a count of edges), for increasing and for decreasing edges.
-/

namespace List

theorem lt_countP_iff_of_prefix {α : Type} (p : α → Bool) (l : List α) (h : l.Pairwise fun a b => p b → p a)
    (i : Nat) (hi : i < l.length) : i < l.countP p ↔ p l[i] = true := by
  induction l generalizing i with
  | nil => simp at hi
  | cons a t ih =>
    obtain ⟨ha, ht⟩ := List.pairwise_cons.mp h
    by_cases hpa : p a = true
    · cases i with
      | zero => simp [hpa]
      | succ k => simpa [hpa] using ih ht k (by simpa using hi)
    · have hnone : ∀ x ∈ a :: t, ¬ p x = true := by
        intro x hx
        rcases List.mem_cons.mp hx with rfl | hx
        · exact hpa
        · exact fun hx' => hpa (ha x hx hx')
      have hz : t.countP p = 0 := List.countP_eq_zero.mpr fun x hx => hnone x (List.mem_cons_of_mem _ hx)
      simp [hz, hpa, hnone _ (List.getElem_mem hi)]

theorem countP_eq_succ_iff_of_prefix {α : Type} (p : α → Bool) (l : List α) (h : l.Pairwise fun a b => p b → p a)
    (b : Nat) (hb : b + 1 < l.length) : l.countP p = b + 1 ↔ p l[b] = true ∧ ¬ p l[b + 1] = true := by
  rw [← lt_countP_iff_of_prefix p l h b (by omega), ← lt_countP_iff_of_prefix p l h (b + 1) hb]
  omega

/-- on increasing edges, the edges `≤ v` form a prefix -/
theorem le_on_prefix {e : List Rat} (he : e.Pairwise (· ≤ ·)) (v : Rat) :
    e.Pairwise fun a b => decide (b ≤ v) = true → decide (a ≤ v) = true :=
  he.imp fun hab hb => decide_eq_true (Rat.le_trans hab (of_decide_eq_true hb))

/-- on decreasing edges, the edges `> v` form a prefix -/
theorem gt_on_prefix {e : List Rat} (he : e.Pairwise (· ≥ ·)) (v : Rat) :
    e.Pairwise fun a b => decide (v < b) = true → decide (v < a) = true :=
  he.imp fun hab hb => by simp only [decide_eq_true_eq] at hb ⊢; grind

end List
