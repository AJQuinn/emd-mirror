/-
  Lemmas for C11 (holospectrum; model: EmdModel/Spectra.lean).  Fold/unfold, C-order reshape and the
  `[1:-1, 1:-1]` trim are index maps on tables, so each of the three `squash_time` outputs is a table of sums of
  the sparse entries (`holo3d_eq`, `holoSum_eq_tab`, `holoMean_eq_tab`); `sumIf_holoRowTrips` equates such a sum
  with the declarative specification `holoSpec`.  Also `np.digitize` on decreasing edges, the total of the
  specification, energy mode, and the number of sparse entries.
-/
import Proofs.Lemmas.Spectra

namespace Spectra

/-! ### fold / unfold -/

theorem unfold_fold (L1 d1 d2 : Nat) (h : d1 ≤ L1) :
    foldIdx L1 d1 d2 / (L1 + 1) = d2 ∧ foldIdx L1 d1 d2 % (L1 + 1) = d1 := by
  unfold foldIdx
  constructor
  · rw [Nat.add_mul_div_right _ _ (by omega), Nat.div_eq_of_lt (by omega)]; omega
  · rw [Nat.add_mul_mod_self_right, Nat.mod_eq_of_lt (by omega)]

theorem foldIdx_eq_iff (L1 d1 d2 c a : Nat) (h1 : d1 ≤ L1) (hc : c ≤ L1) :
    foldIdx L1 d1 d2 = foldIdx L1 c a ↔ d1 = c ∧ d2 = a := by
  constructor
  · intro h
    have u1 := unfold_fold L1 d1 d2 h1
    have u2 := unfold_fold L1 c a hc
    rw [h] at u1
    exact ⟨u1.2.symm.trans u2.2, u1.1.symm.trans u2.1⟩
  · rintro ⟨rfl, rfl⟩; rfl

theorem foldIdx_lt (L1 L2 d1 d2 : Nat) (h1 : d1 ≤ L1) (h2 : d2 ≤ L2) :
    foldIdx L1 d1 d2 < (L1 + 1) * (L2 + 1) := by
  unfold foldIdx
  have : d2 * (L1 + 1) ≤ L2 * (L1 + 1) := Nat.mul_le_mul_right _ h2
  have e : (L1 + 1) * (L2 + 1) = L2 * (L1 + 1) + (L1 + 1) := by
    rw [Nat.mul_comm (L1 + 1) (L2 + 1), Nat.succ_mul]
  omega

/-! ### reshape and trim as index maps -/

theorem trim_map_range {α : Type} (n : Nat) (g : Nat → α) :
    trim ((List.range n).map g) = (List.range (n - 2)).map fun i => g (i + 1) := by
  unfold trim
  apply List.ext_getElem
  · simp; omega
  · intro i h1 h2
    simp [List.getElem_dropLast]

theorem reshape2_map_range (nr nc : Nat) (h : Nat → Rat) :
    reshape2 nr nc ((List.range (nr * nc)).map h) = tab nr nc fun i j => h (i * nc + j) := by
  unfold reshape2 tab
  apply List.map_congr_left
  intro i hi
  have hi' : i + 1 ≤ nr := List.mem_range.mp hi
  have hm : (i + 1) * nc ≤ nr * nc := Nat.mul_le_mul_right nc hi'
  rw [Nat.succ_mul] at hm
  apply List.ext_getElem
  · simp; omega
  · intro j h1 h2
    simp [List.getElem_take, List.getElem_drop]

theorem trim2_tab (nr nc : Nat) (g : Nat → Nat → Rat) :
    trim2 (tab nr nc g) = tab (nr - 2) (nc - 2) fun r c => g (r + 1) (c + 1) := by
  unfold trim2 tab
  rw [List.map_map]
  have : (trim ∘ fun r => (List.range nc).map fun c => g r c) =
      fun r => (List.range (nc - 2)).map fun c => g r (c + 1) := by
    funext r; exact trim_map_range nc (g r)
  rw [this, trim_map_range]

theorem unfoldTrim_map_range (e1 e2 : List Rat) (h : Nat → Rat) :
    unfoldTrim e1 e2 ((List.range (holoCols e1 e2)).map h) =
      tab (e2.length - 1) (e1.length - 1) fun a c => h (foldIdx e1.length (c + 1) (a + 1)) := by
  unfold unfoldTrim holoCols
  rw [Nat.mul_comm, reshape2_map_range, trim2_tab]
  apply tab_congr
  intro a c _ _
  unfold foldIdx
  rw [Nat.add_comm]

/-! ### tables: cells, column sums -/

/-- the entry `[a][c]` of a matrix (0 outside) -/
def cellAt (m : List (List Rat)) (a c : Nat) : Rat := ((m[a]?).bind (·[c]?)).getD 0

theorem cellAt_tab (nr nc : Nat) (g : Nat → Nat → Rat) (a c : Nat) (ha : a < nr) (hc : c < nc) :
    cellAt (tab nr nc g) a c = g a c := by
  unfold cellAt tab
  simp [ha, hc]

theorem colSums_tab (nr nc : Nat) (g : Nat → Nat → Rat) :
    colSums nc (tab nr nc g) = (List.range nc).map fun c => ((List.range nr).map fun r => g r c).sum := by
  unfold colSums tab
  apply List.map_congr_left
  intro c hc
  have hc' := List.mem_range.mp hc
  rw [List.map_map]
  apply sum_map_congr
  intro r _
  simp [hc']

/-! ### declarative specification of the holospectrum -/

/-- weight one time row sends to (AM bin `a`, carrier bin `c`):
    Σ_j Σ_k w(a2[j][k])·[f2[j][k] ∈ AM bin a]·[f1[j] ∈ carrier bin c] -/
def holoRowSpec (e1 e2 : List Rat) (energy : Bool) (r : HoloRow) (a c : Nat) : Rat :=
  ((List.zip r.f1 (List.zip r.f2 r.a2)).map fun x =>
    ((List.zip x.2.1 x.2.2).map fun fa =>
      if inBin e2 a fa.1 && inBin e1 c x.1 then weight energy fa.2 else 0).sum).sum

/-- SPEC of the full holospectrum `[time × AM bins × carrier bins]` -/
def holoSpec (e1 e2 : List Rat) (energy : Bool) (rows : List HoloRow) : List (List (List Rat)) :=
  rows.map fun r => tab (e2.length - 1) (e1.length - 1) (holoRowSpec e1 e2 energy r)

/-! ### `np.digitize` on edges of either orientation -/

theorem sortedLe_of_pairwise (e : List Rat) (h : e.Pairwise (· ≤ ·)) : sortedLe e = true := by
  induction e with
  | nil => rfl
  | cons a t ih =>
    cases t with
    | nil => rfl
    | cons b t =>
      have h1 := List.pairwise_cons.mp h
      simp only [sortedLe, Bool.and_eq_true, decide_eq_true_eq]
      exact ⟨h1.1 b (by simp), ih h1.2⟩

theorem digitizeM_of_pairwise (e : List Rat) (h : e.Pairwise (· ≤ ·)) (f : Freq) : digitizeM e f = digitizeF e f := by
  simp [digitizeM, sortedLe_of_pairwise e h]

theorem digitizeDecF_le_length (e : List Rat) (f : Freq) : digitizeDecF e f ≤ e.length := by
  cases f with
  | none => simp [digitizeDecF]
  | some v => exact List.countP_le_length

theorem digitizeM_le_length (e : List Rat) (f : Freq) : digitizeM e f ≤ e.length := by
  unfold digitizeM
  split
  · exact digitizeF_le_length e f
  · exact digitizeDecF_le_length e f

theorem pairwise_ge_of_sortedGe (e : List Rat) (h : sortedGe e = true) : e.Pairwise (· ≥ ·) := by
  induction e with
  | nil => simp
  | cons a t ih =>
    cases t with
    | nil => simp
    | cons b t =>
      simp only [sortedGe, Bool.and_eq_true, decide_eq_true_eq] at h
      have ht := ih h.2
      refine List.pairwise_cons.mpr ⟨?_, ht⟩
      intro x hx
      rcases List.mem_cons.mp hx with rfl | hx
      · exact h.1
      · exact Rat.le_trans ((List.pairwise_cons.mp ht).1 x hx) h.1

theorem digitizeDec_spec (e : List Rat) (he : e.Pairwise (· ≥ ·)) (v : Rat) (b : Nat) (hb : b + 1 < e.length) :
    digitizeDec e v = b + 1 ↔ e[b + 1] ≤ v ∧ v < e[b]'(Nat.lt_of_succ_lt hb) := by
  simpa [digitizeDec, Rat.not_lt, and_comm] using
    List.countP_eq_succ_iff_of_prefix (v < ·) e (List.gt_on_prefix he v) b hb

/-! ### the sparse entries; the outputs as tables over them -/

variable {e1 e2 : List Rat} {energy : Bool} {rows : List HoloRow}

theorem mem_holoRowTrips {t : Nat} {r : HoloRow} {x : Trip}
    (h : x ∈ holoRowTrips e1 e2 energy t r) : x.row = t ∧ x.col < holoCols e1 e2 := by
  unfold holoRowTrips at h
  obtain ⟨y, _, h2⟩ := List.mem_flatMap.mp h
  obtain ⟨fa, _, rfl⟩ := List.mem_map.mp h2
  exact ⟨rfl, foldIdx_lt _ _ _ _ (digitizeM_le_length e1 y.1) (digitizeM_le_length e2 fa.1)⟩

theorem sumIf_holoRowTrips (he1 : e1.Pairwise (· ≤ ·)) (he2 : e2.Pairwise (· ≤ ·))
    (t : Nat) (r : HoloRow) (a c : Nat) (ha : a + 1 < e2.length) (hc : c + 1 < e1.length) :
    sumIf (holoRowTrips e1 e2 energy t r) t (foldIdx e1.length (c + 1) (a + 1)) =
      holoRowSpec e1 e2 energy r a c := by
  unfold holoRowTrips holoRowSpec sumIf
  simp only [digitizeM_of_pairwise e1 he1, digitizeM_of_pairwise e2 he2, sumP_flatMap, sumP_map]
  apply sum_map_congr
  intro x _
  apply sum_map_congr
  intro fa _
  -- the folded column is hit exactly when both digitised indices are those of the cell
  simp only [decide_true, Bool.true_and, foldIdx_eq_iff _ _ _ _ _ (digitizeF_le_length e1 x.1) (Nat.le_of_lt hc),
    digitizeF_eq_iff e1 he1 x.1 c hc, digitizeF_eq_iff e2 he2 fa.1 a ha, Bool.and_comm (inBin e2 a fa.1),
    Bool.decide_and, Bool.decide_eq_true]

theorem sumIf_holoCoo (t i : Nat) (ht : t < rows.length) :
    sumIf (holoCoo e1 e2 energy rows) t i = sumIf (holoRowTrips e1 e2 energy t rows[t]) t i := by
  unfold holoCoo sumIf
  rw [sumP_cooFrom (holoRowTrips e1 e2 energy) _ (·.row) t (fun _ hx => of_decide_eq_true (Bool.and_eq_true_iff.mp hx).1)
    (fun t' r x hx => (mem_holoRowTrips hx).1) 0 rows, if_pos (Nat.zero_le t), Nat.sub_zero, List.getElem?_eq_getElem ht]
  rfl

theorem holo3d_eq :
    holo3d e1 e2 energy rows =
      (List.range rows.length).map fun t =>
        tab (e2.length - 1) (e1.length - 1) fun a c =>
          sumIf (holoCoo e1 e2 energy rows) t (foldIdx e1.length (c + 1) (a + 1)) := by
  unfold holo3d holoFlat
  rw [toDense_eq_tab, tab, List.map_map]
  exact List.map_congr_left fun t _ => unfoldTrim_map_range e1 e2 _

theorem holoSum_eq_tab :
    holoSum e1 e2 energy rows = tab (e2.length - 1) (e1.length - 1) fun a c =>
      ((List.range rows.length).map fun t =>
        sumIf (holoCoo e1 e2 energy rows) t (foldIdx e1.length (c + 1) (a + 1))).sum := by
  unfold holoSum holoFlat
  rw [toDense_eq_tab, colSums_tab, unfoldTrim_map_range]

theorem holoMean_eq_tab :
    holoMean e1 e2 energy rows = tab (e2.length - 1) (e1.length - 1) fun a c =>
      ((List.range rows.length).map fun t =>
        sumIf (holoCoo e1 e2 energy rows) t (foldIdx e1.length (c + 1) (a + 1))).sum / (rows.length : Rat) := by
  unfold holoMean holoFlat
  rw [toDense_eq_tab, colSums_tab, List.map_map, unfoldTrim_map_range]; rfl

theorem sum_cellAt_holo3d (a c : Nat) (ha : a < e2.length - 1) (hc : c < e1.length - 1) :
    ((holo3d e1 e2 energy rows).map fun m => cellAt m a c).sum =
      ((List.range rows.length).map fun t =>
        sumIf (holoCoo e1 e2 energy rows) t (foldIdx e1.length (c + 1) (a + 1))).sum := by
  rw [holo3d_eq, List.map_map]
  exact sum_map_congr _ _ _ fun t _ => cellAt_tab _ _ _ a c ha hc

/-! ### the total of one time row of the specification -/

theorem sum3_comm {α β γ : Type} (l : List γ) (m : List α) (n : α → List β) (f : γ → α → β → Rat) :
    (l.map fun c => (m.map fun x => ((n x).map fun y => f c x y).sum).sum).sum =
      (m.map fun x => ((n x).map fun y => (l.map fun c => f c x y).sum).sum).sum := by
  rw [sum_map_comm]
  apply sum_map_congr
  intro x _
  rw [sum_map_comm]

theorem holoRowSpec_total (he1 : e1.Pairwise (· ≤ ·)) (he2 : e2.Pairwise (· ≤ ·)) (r : HoloRow) :
    ((tab (e2.length - 1) (e1.length - 1) (holoRowSpec e1 e2 energy r)).map List.sum).sum =
      ((List.zip r.f1 (List.zip r.f2 r.a2)).map fun x =>
        ((List.zip x.2.1 x.2.2).map fun fa =>
          if inRange e2 fa.1 && inRange e1 x.1 then weight energy fa.2 else 0).sum).sum := by
  unfold tab holoRowSpec
  simp only [List.map_map, Function.comp_def]
  rw [sum_map_congr _ _ _ fun a _ => sum3_comm _ _ _ _, sum3_comm]
  apply sum_map_congr
  intro x _
  apply sum_map_congr
  intro fa _
  -- a sample is counted in exactly one (AM bin, carrier bin) cell when both frequencies are in range, else in none
  exact sum_ite_and _ _ (inBin e2 · fa.1) (inBin e1 · x.1) _ _ (sum_bins_inBin e2 he2 fa.1)
    (sum_bins_inBin e1 he1 x.1) _

/-! ### energy mode -/

/-- the same time row with every second-level amplitude squared -/
def sqRow (r : HoloRow) : HoloRow := ⟨r.f1, r.f2, r.a2.map fun l => l.map fun a => a * a⟩

theorem holoCoo_sq (e1 e2 : List Rat) (rows : List HoloRow) :
    holoCoo e1 e2 true rows = holoCoo e1 e2 false (rows.map sqRow) := by
  refine cooFrom_map (fun t r => ?_) 0 rows
  simp only [holoRowTrips, sqRow, List.zip_map_right, List.flatMap_map, List.map_map, Function.comp_def, Prod.map, id,
    weight]
  rfl

/-! ### one sparse entry per sample -/

/-- number of second-level samples of one time row (ragged rows: what `zip` pairs up) -/
def rowSamples (r : HoloRow) : Nat :=
  ((List.zip r.f1 (List.zip r.f2 r.a2)).map fun x => (List.zip x.2.1 x.2.2).length).sum

theorem length_holoRowTrips (t : Nat) (r : HoloRow) :
    (holoRowTrips e1 e2 energy t r).length = rowSamples r := by
  simp [holoRowTrips, rowSamples, List.length_flatMap]

/-- the sparse entry lies in a cell that survives the trim `[1:-1, 1:-1]` of the unfolded matrix -/
def interior (e1 e2 : List Rat) (x : Trip) : Bool :=
  decide (1 ≤ x.col % (e1.length + 1) ∧ x.col % (e1.length + 1) ≤ e1.length - 1 ∧
          1 ≤ x.col / (e1.length + 1) ∧ x.col / (e1.length + 1) ≤ e2.length - 1)

theorem countP_interior_holoRowTrips (he1 : e1.Pairwise (· ≤ ·)) (he2 : e2.Pairwise (· ≤ ·))
    (t : Nat) (r : HoloRow) :
    (holoRowTrips e1 e2 energy t r).countP (interior e1 e2) =
      ((List.zip r.f1 (List.zip r.f2 r.a2)).map fun x =>
        (List.zip x.2.1 x.2.2).countP fun fa => inRange e2 fa.1 && inRange e1 x.1).sum := by
  unfold holoRowTrips
  simp only [digitizeM_of_pairwise e1 he1, digitizeM_of_pairwise e2 he2, List.countP_flatMap]
  congr 2
  funext x
  rw [Function.comp_apply, List.countP_map]
  apply List.countP_congr
  intro fa _
  have hu := unfold_fold e1.length (digitizeF e1 x.1) (digitizeF e2 fa.1) (digitizeF_le_length e1 x.1)
  simp only [Function.comp, interior, hu.1, hu.2, decide_eq_true_eq, Bool.and_eq_true, inRange_iff e1 he1,
    inRange_iff e2 he2]
  omega

/-- rectangular input `[T × M]`, `[T × M × K]`, `[T × M × K]` -/
def Rect (M K : Nat) (rows : List HoloRow) : Prop :=
  ∀ r ∈ rows, r.f1.length = M ∧ r.f2.length = M ∧ r.a2.length = M ∧
    (∀ l ∈ r.f2, l.length = K) ∧ (∀ l ∈ r.a2, l.length = K)

theorem rowSamples_rect {M K : Nat} (h : Rect M K rows) {r : HoloRow} (hr : r ∈ rows) :
    rowSamples r = M * K := by
  obtain ⟨h1, h2, h3, h4, h5⟩ := h r hr
  unfold rowSamples
  rw [sum_map_const _ _ K]
  · simp [h1, h2, h3]
  · intro x hx
    have := List.of_mem_zip (List.of_mem_zip hx).2
    simp [h4 _ this.1, h5 _ this.2]

end Spectra
