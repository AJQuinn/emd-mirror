/-
  Cross-model consistency: the container model (C15) counts labels and collects the samples of a label
  exactly as the CycleStats model (C14) does, so its label-lookup statistic is the per-cycle statistic
  of C14 (`C15.metric_is_cycle_statistic`).
-/
import Proofs.Lemmas.CycleStats
import EmdModel.Container

namespace ComposeStats

theorem nLabels_agree (cv : List Int) : Container.nLabels cv = Maps.nLabels cv := rfl

theorem samplesOf_agree (cv : List Int) (vals : List Rat) (k : Nat) :
    Container.samplesOf cv vals (k : Int) = CycleStats.valuesWithLabel vals cv k :=
  (List.filter_zip_positions _ cv vals).trans (List.filter_zip_positions' (fun l => decide (l = (k : Int))) cv vals).symm

end ComposeStats
