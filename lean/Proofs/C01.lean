/-
  C01 — classic sift is a complete additive decomposition of its input.

  Model: `Sift.siftLoop` / `siftIx` / `sift` (EmdModel/Sift.lean) mirror `emd.sift.sift`; a regular exit
  `.done fl cp th` records which terminators fired in the last layer (extractor cleared the continue flag / cap
  reached / abs-sum of the last column below `sift_thresh`).  The outer loop has no termination proof (EMD has none),
  so it takes fuel; every theorem holds for every fuel.

  The theorems quantify over EVERY extractor `X` that satisfies the contract `ExtractorOK`
  (length preserved; flag cleared ⇒ input returned unchanged); `getNextImf_contract` shows that
  single-IMF extraction (C04 model, no energy threshold) satisfies it for every envelope oracle whose
  envelopes have the length of their signal (`EnvLen`).  `resid x cols = x − Σ cols`.

  Out of range: `get_next_imf` with the fixed rule and `max_iters = 0` never returns in the code; its model
  answers `convergeError` (`C04.fixed_zero_iters_model_convergeError`), so `extractorIx` is `none` and the
  sift model ends `.raised` — every theorem here is about `.done` exits and is silent on that call.

  With an energy threshold the contract's `stay` half fails (the flag is also cleared when the energy
  rule fires); the section "With an energy threshold" states the property at full strength for EVERY
  option record: complete unless cut short by the cap, the sift threshold or the energy rule.
-/
import Proofs.Lemmas.SiftOuter
import Proofs.Lemmas.Compose
import Proofs.C06

namespace C01
open Sift

/-- Residual invariant: in every layer the extraction is applied to `x − Σ (columns extracted so far)`
    and its output becomes the next column (stated for an arbitrary entry state of the loop whose
    residual is consistent; `siftIx` starts from `([], x)`, see `sift_residual_inv`). -/
theorem siftLoop_residual_inv (X : Nat → Sig → Option (Sig × Bool)) (thr : Rat) (cap : Option Nat) (x : Sig)
    (fuel : Nat) (cols : List Sig) (proto : Sig) (out : List Sig) (e : SiftEnd)
    (hp : proto = resid x cols) (h : siftLoop X thr cap x fuel cols proto = (out, e)) :
    ∀ k, cols.length ≤ k → k < out.length →
      ∃ c f, out[k]? = some c ∧ X k (resid x (out.take k)) = some (c, f) :=
  siftLoop_cols hp h

theorem sift_residual_inv (X : Nat → Sig → Option (Sig × Bool)) (thr : Rat) (cap : Option Nat) (x : Sig)
    (fuel : Nat) (out : List Sig) (e : SiftEnd) (h : siftIx X thr cap x fuel = (out, e)) :
    ∀ k, k < out.length → ∃ c f, out[k]? = some c ∧ X k (resid x (out.take k)) = some (c, f) :=
  siftIx_cols h

/-- All returned components have the length of the input. -/
theorem sift_col_lengths (X : Nat → Sig → Option (Sig × Bool)) (thr : Rat) (cap : Option Nat) (x : Sig)
    (hX : ExtractorOK X x.length) (fuel : Nat) :
    ∀ c ∈ (siftIx X thr cap x fuel).1, c.length = x.length :=
  peel_lengths (fun cols => hX.len cols.length) fuel

/-- COMPLETENESS: if the sift ends because the extractor cleared the continue flag, the components sum
    back to the input EXACTLY (in ℚ) — for every extractor meeting the contract, every threshold,
    cap, input and fuel, whatever other terminator fired at the same time. -/
theorem sift_complete (X : Nat → Sig → Option (Sig × Bool)) (thr : Rat) (cap : Option Nat) (x : Sig)
    (hX : ExtractorOK X x.length) (fuel : Nat) (cols : List Sig) (cp th : Bool)
    (h : siftIx X thr cap x fuel = (cols, .done true cp th)) : Sig.vsum x.length cols = x := by
  obtain ⟨init, c, rfl, hc, _⟩ := peel_done h
  obtain rfl := hX.stay _ _ _ hc
  exact peel_sum (fun cols => hX.len cols.length) h

/-- "…unless the decomposition was explicitly cut short": a regular exit on which neither the cap nor
    the sift threshold fired is complete. -/
theorem sift_complete_unless_cutshort (X : Nat → Sig → Option (Sig × Bool)) (thr : Rat) (cap : Option Nat)
    (x : Sig) (hX : ExtractorOK X x.length) (fuel : Nat) (cols : List Sig) (fl : Bool)
    (h : siftIx X thr cap x fuel = (cols, .done fl false false)) : Sig.vsum x.length cols = x := by
  obtain ⟨_, _, _, _, _, _, hor⟩ := peel_done h
  obtain rfl : fl = true := by simpa using hor
  exact sift_complete X thr cap x hX fuel cols false false h

/-- The three named cut-short causes are exhaustive: every regular exit is due to the cleared flag,
    the cap (exactly `cap` columns), or the last column's abs-sum below the threshold — and the
    recorded cap and threshold causes are accurate. -/
theorem sift_cutshort_cases (X : Nat → Sig → Option (Sig × Bool)) (thr : Rat) (cap : Option Nat) (x : Sig)
    (fuel : Nat) (cols : List Sig) (fl cp th : Bool) (h : siftIx X thr cap x fuel = (cols, .done fl cp th)) :
    (fl = true ∨ cp = true ∨ th = true) ∧
    (cp = true ↔ cap = some cols.length) ∧
    (∃ c, cols.getLast? = some c ∧ (th = true ↔ Sig.absSum c < thr)) := by
  obtain ⟨init, c, rfl, _, hcp, hth, hor⟩ := peel_done h
  refine ⟨hor, ?_, c, by simp, ?_⟩
  · subst hcp; simp
  · subst hth; simp

/-- Single-IMF extraction (C04 model) without an energy threshold satisfies the extractor contract,
    for every envelope oracle whose envelopes have the length of their signal. -/
theorem getNextImf_contract (E : Nat → Sig → Env) (hE : EnvLen E) (D : Sig → Sig → Rat) (o : ImfOpts)
    (he : o.energyThresh = none) (n : Nat) : ExtractorOK (fun _ => extractorIx E D o) n where
  len := fun _ _ _ _ hp h => extractorIx_len hE hp h
  stay := fun _ _ _ h => (flag_false_unmodified he (extractorIx_imf h)).1

/-- Hence `sift` over `get_next_imf` without an energy threshold is complete whenever it ends by the flag. -/
theorem sift_getNextImf_complete (E : Nat → Sig → Env) (hE : EnvLen E) (D : Sig → Sig → Rat) (o : ImfOpts)
    (he : o.energyThresh = none) (thr : Rat) (cap : Option Nat) (x : Sig) (fuel : Nat) (cols : List Sig)
    (cp th : Bool) (h : sift (extractorIx E D o) thr cap x fuel = (cols, .done true cp th)) :
    Sig.vsum x.length cols = x :=
  sift_complete _ thr cap x (getNextImf_contract E hE D o he x.length) fuel cols cp th h

/-- When the sift (no energy threshold) ends of its own accord the final component is a non-oscillatory
    residual: it has fewer than two strict interior maxima or fewer than two strict interior minima.
    (`envOf I`: an envelope is None iff fewer than two extrema of its kind; interpolation values `I` arbitrary.) -/
theorem sift_last_nonoscillatory (I : Nat → Sig → Sig × Sig) (D : Sig → Sig → Rat) (o : ImfOpts)
    (he : o.energyThresh = none) (thr : Rat) (cap : Option Nat) (x : Sig) (fuel : Nat) (cols : List Sig)
    (cp th : Bool) (h : sift (extractorIx (envOf I) D o) thr cap x fuel = (cols, .done true cp th)) :
    ∃ c, cols.getLast? = some c ∧ (peaks c < 2 ∨ troughs c < 2) := by
  obtain ⟨init, c, rfl, ⟨_, hn⟩ | hfire⟩ := sift_gni_flag_exit h
  · exact ⟨c, by simp, (envOf_none_iff I 0 c).mp hn⟩
  · exact absurd hfire (energyFires_none he)

/-! ### With an energy threshold (every option record of `get_next_imf`) -/

/-- FULL-STRENGTH COMPLETENESS over `get_next_imf`, energy threshold or not: if the sift ends with the
    continue flag cleared, then EITHER the components sum to the input exactly (and the last one is the
    unmodified running residual, which has an undefined envelope) OR the energy rule fired on the last
    extraction. -/
theorem sift_getNextImf_complete_or_energy (E : Nat → Sig → Env) (hE : EnvLen E) (D : Sig → Sig → Rat) (o : ImfOpts)
    (thr : Rat) (cap : Option Nat) (x : Sig) (fuel : Nat) (cols : List Sig) (cp th : Bool)
    (h : sift (extractorIx E D o) thr cap x fuel = (cols, .done true cp th)) :
    (Sig.vsum x.length cols = x ∧
      ∃ c, cols.getLast? = some c ∧ c = resid x cols.dropLast ∧ ((E 0 c).1 = none ∨ (E 0 c).2 = none)) ∨
    LastEnergyFires D o x cols := by
  obtain ⟨init, c, rfl, ⟨rfl, hn⟩ | hfire⟩ := sift_gni_flag_exit h
  · exact Or.inl ⟨peel_sum (fun _ _ _ _ hp h => extractorIx_len hE hp h) h, _, by simp, by simp, hn⟩
  · exact Or.inr ⟨init, c, rfl, hfire⟩

/-- Threshold configured but it did not fire on the last extraction ⇒ complete.  (Hypothesis on the last
    layer only; "never fired in any layer" implies it.) -/
theorem sift_getNextImf_complete_energy_silent (E : Nat → Sig → Env) (hE : EnvLen E) (D : Sig → Sig → Rat)
    (o : ImfOpts) (t : Rat) (he : o.energyThresh = some t) (thr : Rat) (cap : Option Nat) (x : Sig) (fuel : Nat)
    (cols : List Sig) (cp th : Bool)
    (h : sift (extractorIx E D o) thr cap x fuel = (cols, .done true cp th))
    (hsilent : ∀ init c, cols = init ++ [c] → ¬ t < D (resid x init) (Sig.sub (resid x init) c)) :
    Sig.vsum x.length cols = x := by
  rcases sift_getNextImf_complete_or_energy E hE D o thr cap x fuel cols cp th h with hc | ⟨init, c, hcols, t', ht', hlt⟩
  · exact hc.1
  · rw [he] at ht'; cases ht'
    exact absurd hlt (hsilent init c hcols)

/-- THE THREE DOCUMENTED CUT-SHORT CAUSES ARE EXHAUSTIVE for `sift` over `get_next_imf`: every regular
    exit is complete (Σ columns = input, exactly) unless the cap was reached (exactly `cap` columns),
    the last column's abs-sum is below `sift_thresh`, or the energy threshold fired on the last
    extraction. -/
theorem sift_getNextImf_cutshort_cases (E : Nat → Sig → Env) (hE : EnvLen E) (D : Sig → Sig → Rat) (o : ImfOpts)
    (thr : Rat) (cap : Option Nat) (x : Sig) (fuel : Nat) (cols : List Sig) (fl cp th : Bool)
    (h : sift (extractorIx E D o) thr cap x fuel = (cols, .done fl cp th)) :
    Sig.vsum x.length cols = x ∨ cap = some cols.length ∨
      (∃ c, cols.getLast? = some c ∧ Sig.absSum c < thr) ∨ LastEnergyFires D o x cols := by
  obtain ⟨hor, hcp, c, hlast, hth⟩ := sift_cutshort_cases _ thr cap x fuel cols fl cp th h
  rcases hor with hfl | hc | ht
  · subst hfl
    rcases sift_getNextImf_complete_or_energy E hE D o thr cap x fuel cols cp th h with hcomp | hfire
    · exact Or.inl hcomp.1
    · exact Or.inr (Or.inr (Or.inr hfire))
  · exact Or.inr (Or.inl (hcp.mp hc))
  · exact Or.inr (Or.inr (Or.inl ⟨c, hlast, hth.mp ht⟩))

/-- Without an energy threshold the energy cause is impossible (so the earlier theorems are the
    `energyThresh = none` instances of this section). -/
theorem lastEnergyFires_of_none (D : Sig → Sig → Rat) (o : ImfOpts) (he : o.energyThresh = none) (x : Sig)
    (cols : List Sig) : ¬ LastEnergyFires D o x cols := by
  rintro ⟨_, _, _, hf⟩; exact energyFires_none he hf

/-- Last component with an energy threshold: when the flag was cleared it is a non-oscillatory residual
    OR the energy rule fired on it. -/
theorem sift_last_nonoscillatory_or_energy (I : Nat → Sig → Sig × Sig) (D : Sig → Sig → Rat) (o : ImfOpts)
    (thr : Rat) (cap : Option Nat) (x : Sig) (fuel : Nat) (cols : List Sig) (cp th : Bool)
    (h : sift (extractorIx (envOf I) D o) thr cap x fuel = (cols, .done true cp th)) :
    (∃ c, cols.getLast? = some c ∧ (peaks c < 2 ∨ troughs c < 2)) ∨ LastEnergyFires D o x cols := by
  obtain ⟨init, c, rfl, ⟨_, hn⟩ | hfire⟩ := sift_gni_flag_exit h
  · exact Or.inl ⟨c, by simp, (envOf_none_iff I 0 c).mp hn⟩
  · exact Or.inr ⟨init, c, rfl, hfire⟩

/-! ### Non-vacuity: a 7-sample signal, table extractor, natural exit in two layers. -/

def tabX : Nat → Sig → Option (Sig × Bool) := fun k p =>
  if k = 0 then some ([0, 1, -1, 1, -1, 1, 0], true) else some (p, false)

example : siftIx tabX (1/100000000) none [1, 3, 2, 5, 4, 7, 7] 10
    = ([[0, 1, -1, 1, -1, 1, 0], [1, 2, 3, 4, 5, 6, 7]], .done true false false) := by decide +kernel
example : Sig.vsum 7 [[0, 1, -1, 1, -1, 1, 0], [1, 2, 3, 4, 5, 6, 7]] = [1, 3, 2, 5, 4, 7, 7] := by decide +kernel
example : ExtractorOK tabX 7 where
  len := by
    intro k p c f hp h
    unfold tabX at h
    split at h <;> cases h
    · rfl
    · exact hp
  stay := by
    intro k p c h
    unfold tabX at h
    split at h <;> cases h
    rfl
example : peaks [1, 2, 3, 4, 5, 6, 7] < 2 := by decide +kernel
example : peaks [0, 1, -1, 1, -1, 1, 0] = 3 ∧ troughs [0, 1, -1, 1, -1, 1, 0] = 2 := by decide +kernel

/-! ### Non-vacuity with an energy threshold (real `get_next_imf` model as the extractor) -/

def toyE3 : Nat → Sig → Env := fun _ h =>
  match h with
  | a :: _ => if a ≤ 1 then (none, none) else (some h, some (h.map fun _ => 0))
  | [] => (none, none)

def toyOe : ImfOpts := { stop := .sd (1/2), step := 1, maxIters := 5, energyThresh := some 50 }

example : EnvLen toyE3 := by
  intro k h U L he
  unfold toyE3 at he
  split at he
  · split at he
    · cases he
    · cases he; simp
  · cases he
-- threshold set, never fires (dB oracle ≡ 0): three columns, natural exit, complete
example : sift (extractorIx toyE3 (fun _ _ => 0) toyOe) (1/100000000) none [4, 8] 10
    = ([[2, 4], [1, 2], [1, 2]], .done true false false) := by decide +kernel
example : Sig.vsum 2 [[2, 4], [1, 2], [1, 2]] = [4, 8] := by decide +kernel
-- threshold fires on the first extraction (dB oracle ≡ 60 > 50): flag cleared, the decomposition is
-- cut short and does NOT sum to the input — the energy disjunct of the theorems is necessary
example : sift (extractorIx toyE3 (fun _ _ => 60) toyOe) (1/100000000) none [4, 8] 10
    = ([[2, 4]], .done true false false) := by decide +kernel
example : Sig.vsum 2 [[2, 4]] ≠ [4, 8] := by decide +kernel
example : LastEnergyFires (fun _ _ => 60) toyOe [4, 8] [[2, 4]] :=
  ⟨[], [2, 4], rfl, 50, rfl, by decide +kernel⟩

/-! ### The composed pipeline: Sift model on top of the Extrema model (C05)

The theorems above take the envelope as an oracle.  Here it is instantiated with the envelopes of
the Extrema model (`Sift.extEnv I w parab` = upper/lower `Extrema.interpEnvelope` with pad width
`w ≥ 1`, with or without parabolic refinement), leaving only the interpolant `I` abstract — the
model of the whole chain get_padded_extrema → interp_envelope → get_next_imf → sift. -/

/-- In the range `1 ≤ w` the composed model represents the code faithfully: `extEnv` (which maps a
    RAISING envelope to "no envelope") has a `none` component exactly when `interp_envelope` returns
    None — it never raises there (`C05.interpEnvelope_never_raises`). -/
theorem pipeline_envelopes_faithful (I : Extrema.Interp) (w : Nat) (hw : 1 ≤ w) (parab : Bool) (h : Sig) :
    ((extEnv I w parab h).1 = none ↔ Extrema.interpEnvelope I .upper w parab h = .none) ∧
    ((extEnv I w parab h).2 = none ↔ Extrema.interpEnvelope I .lower w parab h = .none) :=
  ⟨Compose.toOpt_none_iff hw, Compose.toOpt_none_iff hw⟩

/-- …and at `w = 0` it does NOT: on every signal with ≥ 2 peaks the code's `interp_envelope` raises
    ValueError (`C05.interpEnvelope_pad0_raises`) while `extEnv` answers "no envelope" — the composed
    model would report a natural exit with an oscillatory "residual" on a call that the code rejects.
    Hence every pipeline theorem below (and in C02 / C07) carries `1 ≤ w`. -/
theorem pipeline_pad0_not_represented (I : Extrema.Interp) (parab : Bool) (h : Sig) (hp : 2 ≤ peaks h) :
    (extEnv I 0 parab h).1 = none ∧ Extrema.interpEnvelope I .upper 0 parab h = .valueError := by
  have := (C05.interpEnvelope_pad0_raises I .upper parab h).1
    (by simpa [Extrema.EMode.toMode, Extrema.modeSig, ← Compose.peaks_eq] using hp)
  simp [extEnv, this, EnvResult.toOpt]

/-- Completeness for the composed pipeline without an energy threshold: when the sift ends of its own accord
    the components sum to the input exactly, for every interpolant, pad width ≥ 1, refinement flag, stop rule,
    step, iteration limit, threshold, cap, input and fuel. -/
theorem sift_pipeline_complete (I : Extrema.Interp) (w : Nat) (hw : 1 ≤ w) (parab : Bool) (D : Sig → Sig → Rat)
    (o : ImfOpts) (he : o.energyThresh = none) (thr : Rat) (cap : Option Nat) (x : Sig) (fuel : Nat) (cols : List Sig)
    (cp th : Bool)
    (h : sift (extractorIx (fun _ => extEnv I w parab) D o) thr cap x fuel = (cols, .done true cp th)) :
    Sig.vsum x.length cols = x :=
  sift_getNextImf_complete _ (extEnv_len I w parab) D o he thr cap x fuel cols cp th h

/-- …with any option record (energy threshold included): every regular exit of the composed pipeline
    is complete unless the cap, the sift threshold or the energy rule cut it short. -/
theorem sift_pipeline_cutshort_cases (I : Extrema.Interp) (w : Nat) (hw : 1 ≤ w) (parab : Bool) (D : Sig → Sig → Rat)
    (o : ImfOpts) (thr : Rat) (cap : Option Nat) (x : Sig) (fuel : Nat) (cols : List Sig) (fl cp th : Bool)
    (h : sift (extractorIx (fun _ => extEnv I w parab) D o) thr cap x fuel = (cols, .done fl cp th)) :
    Sig.vsum x.length cols = x ∨ cap = some cols.length ∨
      (∃ c, cols.getLast? = some c ∧ Sig.absSum c < thr) ∨ LastEnergyFires D o x cols :=
  sift_getNextImf_cutshort_cases _ (extEnv_len I w parab) D o thr cap x fuel cols fl cp th h

/-- … and, without an energy threshold, the final component is a non-oscillatory residual in the sense of the
    Extrema model: fewer than two detected peaks or fewer than two detected troughs. -/
theorem sift_pipeline_last_nonoscillatory (I : Extrema.Interp) (w : Nat) (hw : 1 ≤ w) (parab : Bool)
    (D : Sig → Sig → Rat) (o : ImfOpts) (he : o.energyThresh = none) (thr : Rat) (cap : Option Nat)
    (x : Sig) (fuel : Nat) (cols : List Sig) (cp th : Bool)
    (h : sift (extractorIx (fun _ => extEnv I w parab) D o) thr cap x fuel = (cols, .done true cp th)) :
    ∃ c, cols.getLast? = some c ∧
      ((Extrema.findPeaks c).length < 2 ∨ (Extrema.findTroughs c).length < 2) := by
  rw [Compose.extEnv_eq_envOf I w hw parab] at h
  obtain ⟨c, hc, hp⟩ := sift_last_nonoscillatory (Compose.envVals I w parab) D o he thr cap x fuel cols cp th h
  exact ⟨c, hc, by rw [← Compose.peaks_eq, ← Compose.troughs_eq]; exact hp⟩

/-! ### Non-vacuity of the pipeline theorems: the composed model itself runs to a natural exit -/

def sumInterp : Extrema.Interp := { eval := fun _ mags _ => mags.headD 0 + mags.getLastD 0 }

-- pad width 2, no refinement, fixed count 3 with step 1/2: two columns, natural exit, Σ = x
example : sift (extractorIx (fun _ => extEnv sumInterp 2 false) (fun _ _ => 0)
      { stop := .fixed, step := 1/2, maxIters := 3, energyThresh := none }) (1/100000000) none [0, 3, -1, 2, -2, 2, 1] 10
    = ([[-1/2, 5/2, -3/2, 3/2, -5/2, 3/2, 1/2], [1/2, 1/2, 1/2, 1/2, 1/2, 1/2, 1/2]], .done true false false) := by
  decide +kernel
-- the w = 0 artefact on the same signal (3 peaks): the code raises, `extEnv` says "no envelope"
example : (extEnv sumInterp 0 false [0, 3, -1, 2, -2, 2, 1]).1 = none ∧
    Extrema.interpEnvelope sumInterp .upper 0 false [0, 3, -1, 2, -2, 2, 1] = .valueError :=
  pipeline_pad0_not_represented sumInterp false _ (by decide +kernel)

/-! ### No unrequested energy stop: the option model (C06) under the sift model

  The theorems above assume `o.energyThresh = none`.  Where does `o` come from?  From the arguments `get_next_imf`
  is actually called with, which the option model (`EmdModel.Options`, C06) derives from what the CALLER supplied:
  `sift(x)` without `imf_opts` substitutes its own fallback dictionary, `sift(x, imf_opts={…})` hands the dictionary
  over, a `SiftConfig` spells every default out.  On every one of these routes a caller who supplies no
  `energy_thresh` (or `None`) gets `energy_thresh = None` at every extraction (`C06.no_energy_thresh_unless_supplied`)
  — a fallback dictionary that silently gains `'energy_thresh': 50` (seeded C01-7) contradicts this theorem. -/

/-- **With no energy threshold supplied, no energy stop can fire and the decomposition is complete.**  Classic sift,
    any delivery route, any user dictionaries (also none at all) whose IMF options hold no `energy_thresh`: for the
    options `o` read from ANY `get_next_imf` call the run makes, whatever the envelopes `E` (length preserving), energy
    oracle `D`, threshold, cap, input and fuel — a sift over that extraction that ends by the continue flag returns
    components that sum to the input exactly, and the energy rule did not fire on its last extraction. -/
theorem sift_no_unrequested_energy_stop (r : Options.Route) (u : Options.User) (hu : Options.WF u)
    (cs : List Options.StageCall) (hemit : Options.emit false r .sift u = .ok cs)
    (hno : ((Options.optA u.imf).lookup "energy_thresh".toList).getD Options.none' = Options.none')
    (c : Options.StageCall) (hc : c ∈ cs) (hs : c.stage = .gni) (o : ImfOpts) (ho : Options.imfOptsOf c.args = .ok o)
    (E : Nat → Sig → Env) (hE : EnvLen E) (D : Sig → Sig → Rat) (thr : Rat) (cap : Option Nat) (x : Sig) (fuel : Nat)
    (cols : List Sig) (cp th : Bool) (h : sift (extractorIx E D o) thr cap x fuel = (cols, .done true cp th)) :
    o.energyThresh = none ∧ Sig.vsum x.length cols = x ∧ ¬ LastEnergyFires D o x cols := by
  have he : o.energyThresh = none :=
    C06.no_energy_thresh_unless_supplied r .sift u hu cs hemit hno c hc hs o ho
  exact ⟨he, sift_getNextImf_complete E hE D o he thr cap x fuel cols cp th h, lastEnergyFires_of_none D o he x cols⟩

-- non-vacuity: `sift(x)` with no option dictionary at all makes one chain of stage calls; the options read from its
-- `get_next_imf` call exist, hold the default rule and no energy threshold
def noOptsUser : Options.User := { top := .nil, imf := none, env := none, ext := none }
example : ∃ cs, Options.emit false .direct .sift noOptsUser = .ok cs ∧
    (cs.filter (·.stage = .gni)).map (fun c => (Options.imfOptsOf c.args).toOption.map (fun o => (o.stop, o.energyThresh))) =
      [some (.sd (3602879701896397 / 36028797018963968), none)] := by decide +kernel
example : Options.WF noOptsUser :=
  ⟨⟨rfl, rfl, rfl⟩, by simp [noOptsUser, Config.Assoc.keys], by simp [noOptsUser, Options.optA, Config.Assoc.keys],
   by simp [noOptsUser, Options.optA, Config.Assoc.keys], by simp [noOptsUser, Options.optA, Config.Assoc.keys],
   by simp [Config.NodupKeys, noOptsUser, Options.optA, Config.Assoc.keys],
   by simp [Config.NodupKeys, noOptsUser, Options.optA, Config.Assoc.keys],
   by simp [Config.NodupKeys, noOptsUser, Options.optA, Config.Assoc.keys]⟩
example : ((Options.optA noOptsUser.imf).lookup "energy_thresh".toList).getD Options.none' = Options.none' := rfl

end C01
