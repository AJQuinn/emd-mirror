/-
  C06 — every sift option takes effect at the stage it configures, in every variant.
  Property theorems only (helper lemmas: Proofs/Lemmas/Options*.lean).

  All statements are about the executable model `EmdModel.Options`: for every variant (classic,
  ensemble, complete ensemble, masked, the two mask helpers, `get_next_imf` itself, any of them
  as `sift_second_layer`'s sift function, and `mask_sift_second_layer`), for every user dictionary (any values, any keys
  — `WF`: each at most once, no '/' in a name), every other top-level keyword and every delivery route.

  `Obeys imf env ext cs` (Lemmas/OptionsStages.lean) says: the emitted stage calls `cs` consist of complete
  chains  get_next_imf → interp_envelope(upper) → get_padded_extrema(peaks) → interp_envelope(lower) →
  get_padded_extrema(troughs), and in every chain every own option `p` of every stage has the value
  `(user_dict.lookup p).getD signature_default_p` — the supplied value when one was supplied, the
  signature default otherwise (for the two `np.pad` option dictionaries: after the in-function
  replacement of a falsy value by the literal).
-/
import Proofs.Lemmas.OptionsRules
import Proofs.C04

namespace C06
open Config Options

/-! ### resolution of options against defaults -/

/-- Resolving twice changes nothing: a resolved option set is a fixed point. -/
theorem resolve_idem (sig kw : Assoc) (h : noDup sig.keys = true) :
    resolve sig (resolve sig kw) = resolve sig kw :=
  resolve_resolve kw sig sig (fun _ _ hp => hp) ((noDup_iff _).1 h)

/-- A resolved option is the supplied value if there is one, the signature default otherwise;
    nothing else is consulted. -/
theorem resolve_lookup (sig kw : Assoc) (p : Key) :
    (resolve sig kw).lookup p = (sig.lookup p).map (fun d => (kw.lookup p).getD d) := lookup_resolve p kw sig

/-- The special-case literals written inside `sift` and `interp_envelope` and the dictionaries `get_config` stores
    (`envDefaults`, `extDefaults`: `Options.configTables`) only repeat the signature defaults they stand for, so
    taking a special-case branch never changes an effective option; the pad dictionaries `get_config` stores are the
    literals `get_padded_extrema` falls back to, so they agree with the default `None` after that fallback
    (`effVal`).  Last conjunct: no signature repeats a parameter. -/
theorem defaults_agree :
    (∀ p d, gniOwn.lookup p = some d → ((dictOf siftImfLiteral).lookup p).getD d = d) ∧
    (∀ p d, gpeOwn.lookup p = some d → ((dictOf ieExtremaLiteral).lookup p).getD d = d) ∧
    gpeLocLiteral = Config.locPadOpts ∧ gpeMagLiteral = Config.magPadOpts ∧
    (∀ p d, ieOwn.lookup p = some d → (envDefaults.lookup p).getD d = d) ∧
    (∀ p d, gpeOwn.lookup p = some d → effVal p ((extDefaults.lookup p).getD d) = effVal p d) ∧
    (∀ sg ∈ [gniSig, ieSig, gpeSig, siftSig, swnSig, ensSig, gnimSig, gmfSig, maskSig], noDup sg.keys = true) :=
  ⟨fun _ _ h => getD_of_resolve_eq siftLiteral_resolve h, fun _ _ h => getD_of_resolve_eq ieLiteral_resolve h,
   gpeLocLiteral_eq, gpeMagLiteral_eq,
   fun _ _ h => getD_of_resolve_eq envDefaults_resolve h, fun _ _ h => extDefaults_agree h, noDup_sigs⟩

/-! ### the options the stage calls work with -/

/-- **Every supplied option reaches its stage, on every route, in every variant.**
    Whenever a top-level call succeeds at all, every stage call it makes — in the main process, in
    pool jobs, in the noise-only sifts of the complete-ensemble variant, in the first-IMF extraction
    of the masked sift — works with exactly the user's options: supplied values are never dropped,
    unsupplied ones are the signature defaults. -/
theorem stage_opts_effective (r : Route) (v : Variant) (u : User) (hu : WF u) (cs : List StageCall)
    (h : emit false r v u = .ok cs) :
    Obeys (userImf v u) (optA u.env) (optA u.ext) cs := by
  by_cases hr : RouteOK r v
  · rw [emit_eq_run false hu hr] at h
    exact (runVariant_spec v h).obeys_user hu hr
  · rcases emit_missing (u := u) false hr with ⟨_, _, e⟩ | ⟨_, e⟩
    all_goals rw [e] at h; cases h

/-- **The three delivery routes are indistinguishable at the stages.** Keyword dictionaries,
    an edited `get_config(...)` unpacked into the call, and `SiftConfig.get_func()`: whatever two
    routes are taken, stage calls of the same stage work with the same effective own options. -/
theorem route_independent (r r' : Route) (v : Variant) (u : User) (hu : WF u) (cs cs' : List StageCall)
    (h : emit false r v u = .ok cs) (h' : emit false r' v u = .ok cs') :
    ∀ c ∈ cs, ∀ c' ∈ cs', c.stage = c'.stage → ∀ p d, (ownOf c.stage).lookup p = some d →
      (c.args.lookup p).map (effVal p) = (c'.args.lookup p).map (effVal p) := by
  intro c hc c' hc' hst p d hp
  have e1 := obeys_mem (stage_opts_effective r v u hu cs h) c hc p d hp
  have e2 := obeys_mem (stage_opts_effective r' v u hu cs' h') c' hc' p d (hst ▸ hp)
  rw [e1, e2, hst]

/-- Every chain reaches every stage: a non-empty emission contains `get_next_imf`, both
    `interp_envelope` modes and both `get_padded_extrema` modes (so the statements above are about
    all three stages, never vacuously). -/
theorem every_stage_reached (r : Route) (v : Variant) (u : User) (hu : WF u) (cs : List StageCall)
    (h : emit false r v u = .ok cs) (hne : cs ≠ []) :
    (∃ c ∈ cs, c.stage = .gni) ∧
    (∃ c ∈ cs, c.stage = .ie ∧ c.args.lookup "mode".toList = some (s "upper")) ∧
    (∃ c ∈ cs, c.stage = .ie ∧ c.args.lookup "mode".toList = some (s "lower")) ∧
    (∃ c ∈ cs, c.stage = .gpe ∧ c.args.lookup "mode".toList = some (s "peaks")) ∧
    (∃ c ∈ cs, c.stage = .gpe ∧ c.args.lookup "mode".toList = some (s "troughs")) := by
  obtain ⟨chains, rfl, hch⟩ := stage_opts_effective r v u hu cs h
  obtain ⟨ch, hm, _⟩ := List.flatten_ne_nil_iff.1 hne
  obtain ⟨a, aU, gU, aL, gL, rfl, _, g2, g3, _, g5, g6, _⟩ := (hch ch hm).shape
  have sub : ∀ c ∈ [(⟨.gni, a⟩ : StageCall), ⟨.ie, aU⟩, ⟨.gpe, gU⟩, ⟨.ie, aL⟩, ⟨.gpe, gL⟩], c ∈ chains.flatten :=
    fun c hc => List.mem_flatten.mpr ⟨_, hm, hc⟩
  exact ⟨⟨_, sub ⟨.gni, a⟩ (by simp), rfl⟩, ⟨_, sub ⟨.ie, aU⟩ (by simp), rfl, g2⟩, ⟨_, sub ⟨.ie, aL⟩ (by simp), rfl, g3⟩,
    ⟨_, sub ⟨.gpe, gU⟩ (by simp), rfl, g5⟩, ⟨_, sub ⟨.gpe, gL⟩ (by simp), rfl, g6⟩⟩

/-! ### totality: the theorems above are never vacuous for well-formed options (`Known v u`, Lemmas/OptionsRoutes.lean) -/

/-- which delivery routes exist: keyword dictionaries for every variant; the configuration routes for the variants
    `get_config` knows (classic, ensemble, complete ensemble, masked — also as second-layer sifts); a ready-made
    callable (`get_func`) only where a sift function can be handed over (not `mask_sift_second_layer`) -/
def RouteExists (r : Route) (v : Variant) : Prop :=
  r = .direct ∨ (Configurable v ∧ (r = .getFunc → takesFunc v = true))

/-- **Totality.** For well-formed user options every variant on every existing route returns its stage calls — and
    at least one complete chain of them; for `get_mask_freqs` only that it returns (with an explicit frequency it
    extracts nothing).
    Hence `stage_opts_effective`, `route_independent`, `every_stage_reached` apply to every such call. -/
theorem emit_total (r : Route) (v : Variant) (u : User) (h : Known v u) (hr : RouteExists r v) :
    ∃ cs, emit false r v u = .ok cs ∧ (baseVariant v ≠ .maskFreqs → cs ≠ []) := by
  rw [emit_eq_run false h.wf hr]
  exact runVariant_ok v _ (h.kwOK hr)

/-- Routes that do not exist fail before any stage is reached, whatever the options: `get_config` raises
    AttributeError for the entry points it does not know; `mask_sift_second_layer` accepts no callable (TypeError). -/
theorem emit_route_missing (r : Route) (v : Variant) (u : User) (hr : ¬ RouteExists r v) :
    (takesFunc v = false ∧ r = .getFunc ∧ emit false r v u = .error .typeError) ∨
    (¬ Configurable v ∧ emit false r v u = .error .attributeError) := emit_missing false hr

/-- **Converse: malformed stage options are rejected.** If a call with keyword dictionaries (none of the three
    hidden among the other keywords, `TopClean`) returns at least one chain, then every name in the user's
    `imf_opts` / `envelope_opts` / `extrema_opts` was a parameter of its stage, none was given twice and the
    interpolation method was valid; about `imf_opts` nothing is said for `get_next_imf` itself, which has no such
    parameter.  (Contrapositive: with an unknown or repeated option name, or an invalid method, no stage call is
    returned — the call raises, TypeError / ValueError, see the examples below; `get_mask_freqs` with an explicit
    frequency reaches no stage and ignores the options.) -/
theorem emit_ok_wellformed (v : Variant) (u : User) (hc : TopClean u.top) (cs : List StageCall)
    (h : emit false .direct v u = .ok cs) (hne : cs ≠ []) :
    (baseVariant v ≠ .nextImf → GoodImf (optA u.imf)) ∧ GoodEnv (optA u.env) ∧ GoodExt (optA u.ext) := by
  obtain ⟨g1, g2, g3⟩ := (runVariant_spec v (show runVariant false v (kwargsDirect u) = .ok cs from h)).2 hne
  rw [(kwArg_direct hc).1] at g1
  rw [(kwArg_direct hc).2.1] at g2
  rw [(kwArg_direct hc).2.2] at g3
  exact ⟨fun hb => (g1 hb).optA absent_falsy (good_nil _), g2.optA absent_isNone goodEnv_nil,
    g3.optA absent_falsy (good_nil _)⟩

/-! ### concrete users and runs

  The `example`s of this file run the model on the users below.  Evaluating a run makes the kernel decode every key
  string (`"…".toList`) it meets, once per declaration; the runs that only count the stage calls, or only name the
  error, are therefore evaluated together, as two tables in one theorem, and the examples read their row off it
  (the rows stand in the order of the examples). -/

def pchipUser : User := { top := .nil, imf := none, env := some (mk [("interp_method", s "pchip")]), ext := none }
def rillingUser : User := { top := .nil, imf := some (mk [("stop_method", s "rilling")]), env := none, ext := none }
/-- malformed options and their error kinds: unknown option name → TypeError (every dictionary, several variants and
    routes); invalid interpolation method → ValueError; invalid noise mode → ValueError; `imf_opts` handed to
    `get_next_imf` → TypeError; unknown top-level keyword → TypeError -/
def badImf : User := { top := .nil, imf := some (mk [("nope", i 1)]), env := none, ext := none }
def badEnv : User := { top := .nil, imf := none, env := some (mk [("nope", i 1)]), ext := none }
def badExt : User := { top := .nil, imf := none, env := none, ext := some (mk [("mode", s "peaks")]) }
def badMethod : User := { top := .nil, imf := none, env := some (mk [("interp_method", s "cubic")]), ext := none }
def badNoise : User := { top := mk [("noise_mode", s "both")], imf := none, env := none, ext := none }
def badTop : User := { top := mk [("nope", i 1)], imf := none, env := none, ext := none }

/-- (route, variant, user, number of stage calls made): one chain = 5 stage calls -/
def emitCounts : List (Route × Variant × User × Nat) := [
  (.direct, .mask, pchipUser, 10), (.unpackCfg, .mask, pchipUser, 10), (.getFunc, .complete, rillingUser, 10),
  (.direct, .second .sift, rillingUser, 5),
  (.direct, .sift, pchipUser, 5), (.direct, .ensemble, pchipUser, 5), (.direct, .nextImfMask, pchipUser, 5),
  (.direct, .maskFreqs, pchipUser, 5), (.direct, .nextImf, pchipUser, 5), (.direct, .second .mask, pchipUser, 10),
  (.unpackCfg, .sift, rillingUser, 5), (.getFunc, .sift, rillingUser, 5), (.unpackCfg, .ensemble, rillingUser, 5),
  (.getFunc, .ensemble, rillingUser, 5), (.unpackCfg, .complete, rillingUser, 10), (.getFunc, .mask, rillingUser, 10),
  (.unpackCfg, .second .sift, rillingUser, 5), (.getFunc, .second .mask, rillingUser, 10)]

/-- (route, variant, user, exception raised before any stage call is returned) -/
def emitErrors : List (Route × Variant × User × Err) := [
  (.getFunc, .maskSecond, rillingUser, .typeError), (.unpackCfg, .nextImfMask, rillingUser, .attributeError),
  (.getFunc, .nextImf, pchipUser, .attributeError),
  (.direct, .sift, badImf, .typeError), (.direct, .maskSecond, badImf, .typeError), (.direct, .complete, badEnv, .typeError),
  (.direct, .mask, badExt, .typeError), (.direct, .second .sift, badMethod, .valueError),
  (.direct, .maskSecond, badMethod, .valueError), (.unpackCfg, .mask, badMethod, .valueError),
  (.direct, .ensemble, badNoise, .valueError), (.direct, .nextImf, rillingUser, .typeError), (.direct, .sift, badTop, .typeError)]

/-- Every row of the two tables is what the model computes. -/
theorem concrete_emissions :
    (∀ t ∈ emitCounts, ∃ cs, emit false t.1 t.2.1 t.2.2.1 = .ok cs ∧ cs.length = t.2.2.2) ∧
    (∀ t ∈ emitErrors, emit false t.1 t.2.1 t.2.2.1 = .error t.2.2.2) := by decide +kernel

theorem emit_count {r : Route} {v : Variant} {u : User} {n : Nat} (h : (r, v, u, n) ∈ emitCounts) :
    ∃ cs, emit false r v u = .ok cs ∧ cs.length = n := concrete_emissions.1 _ h

theorem emit_error {r : Route} {v : Variant} {u : User} {e : Err} (h : (r, v, u, e) ∈ emitErrors) :
    emit false r v u = .error e := concrete_emissions.2 _ h

/-! ### D5: what the pinned code did (model of the code before the repair) -/

/-- `mask_sift(X, envelope_opts={'interp_method': 'pchip'})` as pinned: all four envelopes (first-IMF
    extraction of `get_mask_freqs`, masked extraction of `get_next_imf_mask`) were still interpolated
    with the default 'splrep' — the option never left `mask_sift`. -/
theorem legacy_mask_dropped_envelope_opts :
    ∃ cs, emit true .direct .mask pchipUser = .ok cs ∧
      (cs.filter (·.stage = .ie)).map (fun c => c.args.lookup "interp_method".toList) =
        [some (s "splrep"), some (s "splrep"), some (s "splrep"), some (s "splrep")] := by
  decide +kernel

/-- `complete_ensemble_sift(X, imf_opts={'stop_method': 'rilling'})` as pinned: the ensemble jobs used
    'rilling' but the noise-only sifts ran `get_next_imf` with the default stop rule 'sd'
    (`imf_opts` had landed in the `verbose` slot of `sift`). -/
theorem legacy_noise_sift_dropped_options :
    ∃ cs, emit true .direct .complete rillingUser = .ok cs ∧
      (cs.filter (·.stage = .gni)).map (fun c => c.args.lookup "stop_method".toList) =
        [some (s "rilling"), some (s "sd")] := by
  decide +kernel

/-- the repaired model on the same inputs: every envelope uses 'pchip'; every extraction 'rilling' -/
example : ∃ cs, emit false .direct .mask pchipUser = .ok cs ∧
    (cs.filter (·.stage = .ie)).map (fun c => c.args.lookup "interp_method".toList) =
      [some (s "pchip"), some (s "pchip"), some (s "pchip"), some (s "pchip")] := by decide +kernel
example : ∃ cs, emit false .direct .complete rillingUser = .ok cs ∧
    (cs.filter (·.stage = .gni)).map (fun c => c.args.lookup "stop_method".toList) =
      [some (s "rilling"), some (s "rilling")] := by decide +kernel

example : ∃ cs, emit false .direct .mask pchipUser = .ok cs ∧ cs.length = 10 := emit_count (List.mem_row 0)
example : ∃ cs, emit false .unpackCfg .mask pchipUser = .ok cs ∧ cs.length = 10 := emit_count (List.mem_row 1)
example : ∃ cs, emit false .getFunc .complete rillingUser = .ok cs ∧ cs.length = 10 := emit_count (List.mem_row 2)
example : ∃ cs, emit false .direct (.second .sift) rillingUser = .ok cs ∧ cs.length = 5 := emit_count (List.mem_row 3)

/-- the hypotheses of the theorems are satisfiable -/
example : WF pchipUser :=
  ⟨⟨rfl, rfl, rfl⟩, nofun, nofun, by decide +kernel, nofun, List.nodup_nil, by unfold NodupKeys; decide +kernel,
   List.nodup_nil⟩

/-! ### non-vacuity of the totality theorems: every (route, variant) pair -/

/-- `pchipUser` is well-formed for every variant -/
example : ∀ v, Known v pchipUser := fun v =>
  ⟨⟨⟨rfl, rfl, rfl⟩, nofun, nofun, by decide +kernel, nofun, List.nodup_nil, by unfold NodupKeys; decide +kernel,
    List.nodup_nil⟩,
   nofun, List.nodup_nil, nofun, by decide +kernel, nofun,
   by intro m hm; simp [-String.reduceToList, pchipUser, optA, mk, Assoc.lookup] at hm; rw [← hm]; decide +kernel,
   nofun, fun _ => rfl⟩

example : RouteExists .direct .nextImf ∧ RouteExists .unpackCfg (.second .mask) ∧ RouteExists .getFunc .complete ∧
    RouteExists .unpackCfg .maskSecond ∧ ¬ RouteExists .getFunc .maskSecond ∧ ¬ RouteExists .unpackCfg .nextImfMask := by
  refine ⟨Or.inl rfl, Or.inr ⟨Or.inr (Or.inr (Or.inr rfl)), fun _ => rfl⟩, Or.inr ⟨Or.inr (Or.inr (Or.inl rfl)), fun _ => rfl⟩,
    Or.inr ⟨Or.inr (Or.inr (Or.inr rfl)), fun e => by cases e⟩, ?_, ?_⟩
  · rintro (h | ⟨_, h⟩)
    · cases h
    · exact absurd (h rfl) (by decide)
  · rintro (h | ⟨h, _⟩)
    · cases h
    · simp [Configurable, baseVariant] at h

/-- concrete emissions: one chain = 5 stage calls; every entry point on the direct route … -/
example : ∃ cs, emit false .direct .sift pchipUser = .ok cs ∧ cs.length = 5 := emit_count (List.mem_row 4)
example : ∃ cs, emit false .direct .ensemble pchipUser = .ok cs ∧ cs.length = 5 := emit_count (List.mem_row 5)
example : ∃ cs, emit false .direct .nextImfMask pchipUser = .ok cs ∧ cs.length = 5 := emit_count (List.mem_row 6)
example : ∃ cs, emit false .direct .maskFreqs pchipUser = .ok cs ∧ cs.length = 5 := emit_count (List.mem_row 7)
example : ∃ cs, emit false .direct .nextImf pchipUser = .ok cs ∧ cs.length = 5 := emit_count (List.mem_row 8)
example : ∃ cs, emit false .direct (.second .mask) pchipUser = .ok cs ∧ cs.length = 10 := emit_count (List.mem_row 9)
example : ∃ cs, emit false .direct .maskSecond pchipUser = .ok cs ∧ cs.length = 5 ∧
    (cs.filter (·.stage = .ie)).map (fun c => c.args.lookup "interp_method".toList) = [some (s "pchip"), some (s "pchip")] :=
  by decide +kernel
/-- … the configuration routes of the variants `get_config` knows … -/
example : ∃ cs, emit false .unpackCfg .sift rillingUser = .ok cs ∧ cs.length = 5 := emit_count (List.mem_row 10)
example : ∃ cs, emit false .getFunc .sift rillingUser = .ok cs ∧ cs.length = 5 := emit_count (List.mem_row 11)
example : ∃ cs, emit false .unpackCfg .ensemble rillingUser = .ok cs ∧ cs.length = 5 := emit_count (List.mem_row 12)
example : ∃ cs, emit false .getFunc .ensemble rillingUser = .ok cs ∧ cs.length = 5 := emit_count (List.mem_row 13)
example : ∃ cs, emit false .unpackCfg .complete rillingUser = .ok cs ∧ cs.length = 10 := emit_count (List.mem_row 14)
example : ∃ cs, emit false .getFunc .mask rillingUser = .ok cs ∧ cs.length = 10 := emit_count (List.mem_row 15)
example : ∃ cs, emit false .unpackCfg (.second .sift) rillingUser = .ok cs ∧ cs.length = 5 := emit_count (List.mem_row 16)
example : ∃ cs, emit false .getFunc (.second .mask) rillingUser = .ok cs ∧ cs.length = 10 := emit_count (List.mem_row 17)
example : ∃ cs, emit false .unpackCfg .maskSecond rillingUser = .ok cs ∧ cs.length = 5 ∧
    (cs.filter (·.stage = .gni)).map (fun c => c.args.lookup "stop_method".toList) = [some (s "rilling")] :=
  by decide +kernel
/-- … and the routes that do not exist -/
example : emit false .getFunc .maskSecond rillingUser = .error .typeError := emit_error (List.mem_row 0)
example : emit false .unpackCfg .nextImfMask rillingUser = .error .attributeError := emit_error (List.mem_row 1)
example : emit false .getFunc .nextImf pchipUser = .error .attributeError := emit_error (List.mem_row 2)

example : emit false .direct .sift badImf = .error .typeError := emit_error (List.mem_row 3)
example : emit false .direct .maskSecond badImf = .error .typeError := emit_error (List.mem_row 4)
example : emit false .direct .complete badEnv = .error .typeError := emit_error (List.mem_row 5)
example : emit false .direct .mask badExt = .error .typeError := emit_error (List.mem_row 6)
example : emit false .direct (.second .sift) badMethod = .error .valueError := emit_error (List.mem_row 7)
example : emit false .direct .maskSecond badMethod = .error .valueError := emit_error (List.mem_row 8)
example : emit false .unpackCfg .mask badMethod = .error .valueError := emit_error (List.mem_row 9)
example : emit false .direct .ensemble badNoise = .error .valueError := emit_error (List.mem_row 10)
example : emit false .direct .nextImf rillingUser = .error .typeError := emit_error (List.mem_row 11)
example : emit false .direct .sift badTop = .error .typeError := emit_error (List.mem_row 12)
example : ¬ GoodImf (optA badImf.imf) := by unfold GoodImf; decide +kernel

/-! ### the supplied numbers reach the rule, each in its own place (link to the Sift model, C04)

  `Options.imfOptsOf a` / `stopRuleOf a` read the bound arguments `a` of a `get_next_imf` call the way the code
  does (`sd=sd_thresh`; `sd1=rilling_thresh[0], sd2=rilling_thresh[1], tol=rilling_thresh[2]`; `max_iters`;
  `env_step_size`; `energy_thresh is not None`) and return the options of the Sift model's `get_next_imf`
  (`Sift.ImfOpts`), about which C04 proves what each number does.  A slip such as `tol=rilling_thresh[0]`
  (seeded C06-7) or a fallback dictionary that gains `energy_thresh` (seeded C01-7) contradicts the theorems
  below whatever the variant and route. -/

/-- **Every `get_next_imf` call evaluates the rule the user's options stand for.**  For every variant, route and
    user dictionary: each `get_next_imf` call of the run (main process, pool jobs, noise-only sifts, first-IMF
    extraction of the masked sift) reads — from the arguments it is actually called with — the same stop rule,
    step size, iteration limit and energy threshold as the user's IMF options resolved against the signature
    defaults; nothing else enters. -/
theorem gni_rule_as_supplied (r : Route) (v : Variant) (u : User) (hu : WF u) (cs : List StageCall)
    (h : emit false r v u = .ok cs) (c : StageCall) (hc : c ∈ cs) (hs : c.stage = .gni) :
    stopRuleOf c.args = stopRuleOf (resolve gniOwn (userImf v u)) ∧
    imfOptsOf c.args = imfOptsOf (resolve gniOwn (userImf v u)) :=
  imfOptsOf_congr _ _ (obeys_gni_eq_resolve (stage_opts_effective r v u hu cs h) c hc hs)

/-- **Each component of a supplied `rilling_thresh` reaches `rilling_stop` in its own position.**  With
    `stop_method='rilling'` and `rilling_thresh = (t0, t1, t2, …)` (tuple, list or array of numbers) supplied, every
    `get_next_imf` call of every variant on every route evaluates `Sift.StopRule.rilling t0 t1 t2`, i.e. (C04) in
    each iteration `rilling_stop(upper, lower, sd1 = t0, sd2 = t1, tol = t2)`, which fires iff the number of samples
    whose metric exceeds `t0` is at most `t2 · N` and no sample exceeds `t1`. -/
theorem rilling_thresh_positions (r : Route) (v : Variant) (u : User) (hu : WF u) (cs : List StageCall)
    (h : emit false r v u = .ok cs) (k : Kind) (t0 t1 t2 : Tree) (rest : TreeList) (a0 a1 a2 : Rat)
    (hm : (userImf v u).lookup "stop_method".toList = some (s "rilling"))
    (ht : (userImf v u).lookup "rilling_thresh".toList = some (.seq k (.cons t0 (.cons t1 (.cons t2 rest)))))
    (h0 : numOf t0 = some a0) (h1 : numOf t1 = some a1) (h2 : numOf t2 = some a2)
    (c : StageCall) (hc : c ∈ cs) (hs : c.stage = .gni) :
    stopRuleOf c.args = .ok (.rilling a0 a1 a2) ∧
    ∀ (niters maxIters : Nat) (hh x1 U L : Sig),
      (Sift.stopTest (.rilling a0 a1 a2) niters maxIters hh x1 U L = true ↔
        (((List.zip U L).countP (fun p => decide (Sift.RillingExceeds a0 p.1 p.2)) : Nat) : Rat)
            ≤ a2 * ((List.zip U L).length : Rat) ∧
        ∀ p ∈ List.zip U L, ¬ Sift.RillingExceeds a1 p.1 p.2) := by
  refine ⟨?_, fun niters maxIters hh x1 U L => ?_⟩
  · rw [(gni_rule_as_supplied r v u hu cs h c hc hs).1, stopRuleOf, arg_resolve gniOwn_defaults.1,
      arg_resolve gniOwn_defaults.2.2.1, hm, ht]
    have e1 : ¬ ("rilling".toList = "sd".toList) := by decide +kernel
    simp only [s, Tree.str, Option.getD_some, if_neg e1, if_true, numAt, seqGet, TreeList.toList, List.getElem?_cons_zero,
      List.getElem?_cons_succ, h0, h1, h2, Except.ok_bind]
  · rw [(C04.stopTest_dispatch niters maxIters hh x1 U L).2]
    exact C04.rillingStop_iff a0 a1 a2 U L

/-- **A supplied `sd_thresh` is the number `sd_stop` compares with** (default rule, or `stop_method='sd'` spelled
    out): every `get_next_imf` call of every variant on every route evaluates `Sift.StopRule.sd t`. -/
theorem sd_thresh_as_supplied (r : Route) (v : Variant) (u : User) (hu : WF u) (cs : List StageCall)
    (h : emit false r v u = .ok cs) (tv : Tree) (t : Rat)
    (hm : ((userImf v u).lookup "stop_method".toList).getD (s "sd") = s "sd")
    (ht : (userImf v u).lookup "sd_thresh".toList = some tv) (hn : numOf tv = some t)
    (c : StageCall) (hc : c ∈ cs) (hs : c.stage = .gni) :
    stopRuleOf c.args = .ok (.sd t) := by
  rw [(gni_rule_as_supplied r v u hu cs h c hc hs).1, stopRuleOf, arg_resolve gniOwn_defaults.1,
    arg_resolve gniOwn_defaults.2.1, hm, ht]
  simp only [s, Tree.str, if_true, Option.getD_some, hn]

/-- **No energy test unless the caller asks for one.**  If the user's IMF options hold no `energy_thresh` (or hold
    `None`), then every `get_next_imf` call of every variant on every route — including `sift(x)` with no
    `imf_opts` at all, where the code substitutes its own fallback dictionary — runs with `energy_thresh = None`:
    whatever options it reads (`imfOptsOf c.args = .ok o`), `o.energyThresh = none`, so the energy-ratio stop
    cannot fire (C04.energy_flag; C01.sift_getNextImf_complete then gives the complete decomposition). -/
theorem no_energy_thresh_unless_supplied (r : Route) (v : Variant) (u : User) (hu : WF u) (cs : List StageCall)
    (h : emit false r v u = .ok cs)
    (he : ((userImf v u).lookup "energy_thresh".toList).getD none' = none')
    (c : StageCall) (hc : c ∈ cs) (hs : c.stage = .gni) (o : Sift.ImfOpts) (ho : imfOptsOf c.args = .ok o) :
    o.energyThresh = none := by
  rw [(gni_rule_as_supplied r v u hu cs h c hc hs).2, imfOptsOf, arg_resolve gniOwn_defaults.2.2.2.2.2, he] at ho
  cases hst : stopRuleOf (resolve gniOwn (userImf v u)) with
  | error e => rw [hst] at ho; simp [bind, Except.bind] at ho
  | ok st =>
    rw [hst] at ho
    cases hstep : numOf (arg (resolve gniOwn (userImf v u)) "env_step_size") with
    | none => rw [hstep] at ho; simp [bind, Except.bind] at ho
    | some stp =>
      cases hmi : natOf (arg (resolve gniOwn (userImf v u)) "max_iters") with
      | none => rw [hstep, hmi] at ho; simp [bind, Except.bind] at ho
      | some mi =>
        rw [hstep, hmi] at ho
        simp [bind, Except.bind, energyOf, isNone, none', Tree.none] at ho
        rw [← ho]

/-- **Second-layer `sift_args` carry every supplied option, with or without `max_imfs`.**  The model's
    `sift_second_layer` hands `sift_args` to the sift function as they are (the code first adds `max_imfs` when it
    is absent; that entry, no option of any stage, is left out of the model of this variant);
    `mask_sift_second_layer` writes exactly two entries (`max_imfs` only when absent, `mask_freqs`) and leaves
    every other entry as supplied — in particular `imf_opts`, `envelope_opts`, `extrema_opts`; a supplied
    `max_imfs` is kept.  (With `stage_opts_effective` for `v = .second inner` / `.maskSecond`, whose `u.top` is
    arbitrary: the stages of a second-layer sift work with the user's options whether or not `max_imfs` is among
    the keywords.) -/
theorem second_layer_args_carry_every_option (legacy : Bool) (inner : Variant) (kw : Assoc) :
    runVariant legacy (.second inner) kw = runVariant legacy inner kw ∧
    (∀ q, q ≠ "max_imfs".toList → q ≠ "mask_freqs".toList → (maskSecondArgs kw).lookup q = kw.lookup q) ∧
    (∀ m, kw.lookup "max_imfs".toList = some m → (maskSecondArgs kw).lookup "max_imfs".toList = some m) ∧
    ((maskSecondArgs kw).lookup "max_imfs".toList).isSome = true := by
  have hl : (maskSecondArgs kw).lookup "max_imfs".toList =
      (if kw.contains "max_imfs".toList then kw else kw.insert "max_imfs".toList data).lookup "max_imfs".toList :=
    Assoc.lookup_insert_other _ _ _ maxImfs_ne_maskFreqs _
  refine ⟨rfl, lookup_maskSecondArgs kw, fun m hm => ?_, ?_⟩
  · rw [hl, if_pos (by rw [Assoc.contains, hm]; rfl), hm]
  · rw [hl]
    split
    · next hc => exact hc
    · rw [Assoc.lookup_insert_same]; rfl

-- non-vacuity.  A user who supplies `rilling_thresh = (0.05, 0.5, 0.4)` (third entry ≠ first):
def rilling3User : User :=
  { top := .nil, env := none, ext := none,
    imf := some (mk [("stop_method", s "rilling"), ("rilling_thresh", .seq .tuple (.cons (f 1 20) (.cons (f 1 2) (.cons (f 2 5) .nil))))]) }
-- every `get_next_imf` call of the masked sift (two chains) and of the second-layer sift without `max_imfs` reads
-- sd1 = 1/20, sd2 = 1/2, tol = 2/5
example : ∃ cs, emit false .direct .mask rilling3User = .ok cs ∧
    (cs.filter (·.stage = .gni)).map (fun c => (imfOptsOf c.args).toOption.map (·.stop)) =
      [some (.rilling (1/20) (1/2) (2/5)), some (.rilling (1/20) (1/2) (2/5))] := by decide +kernel
example : ∃ cs, emit false .direct .maskSecond rilling3User = .ok cs ∧
    (cs.filter (·.stage = .gni)).map (fun c => (imfOptsOf c.args).toOption.map (·.stop)) =
      [some (.rilling (1/20) (1/2) (2/5))] := by decide +kernel
-- the positions matter: on envelopes where one sample in four exceeds sd1, tol = 2/5 stops and tol = 1/20 (the
-- FIRST entry put in the third place) does not
example : Sift.rillingStop (1/20) (1/2) (2/5) [1, 1, 1, 12/10] [-1, -1, -1, -1] = true ∧
    Sift.rillingStop (1/20) (1/2) (1/20) [1, 1, 1, 12/10] [-1, -1, -1, -1] = false := by decide +kernel
-- no `imf_opts` at all: the fallback dictionary of `sift` yields the default rule and NO energy threshold
example : ∃ cs, emit false .direct .sift pchipUser = .ok cs ∧
    (cs.filter (·.stage = .gni)).map (fun c => (imfOptsOf c.args).toOption.map (fun o => (o.energyThresh, o.maxIters, o.step))) =
      [some (none, 1000, 1)] := by decide +kernel

/-! ### both deliveries combined: a partial sift function AND `sift_args` (second layer)

  `sift_second_layer(IA, sift_func=cfg.get_func(), sift_args={…})` calls `partial(inner, **cfg)(IA[:, ii], **sift_args)`.
  Ordinary `functools.partial` semantics: a keyword supplied at call time replaces the frozen one.  A merge in the
  other direction (`sift_args.update(sift_func.keywords)`, seeded C06-5) contradicts the two theorems below. -/

/-- `partial(f, **frozen)(x, **call)`: a keyword the call supplies is used as supplied; a frozen keyword the call does
    not repeat stays. -/
theorem partial_call_keywords_win (frozen call : Assoc) (hn : NodupKeys call) (p : Key) :
    (∀ v, call.lookup p = some v → (mergeKw frozen call).lookup p = some v) ∧
    (call.lookup p = none → (mergeKw frozen call).lookup p = frozen.lookup p) := by
  rw [lookup_mergeKw frozen call hn p]
  exact ⟨fun v h => by rw [h]; rfl, fun h => by rw [h]; rfl⟩

/-- **The option dictionaries passed in `sift_args` govern the stages although the sift function is a `get_func`
    partial that holds (default) dictionaries of its own** — for every configurable inner sift, every top-level
    keyword frozen in the partial and every user dictionary: all stage calls obey the user's options exactly as on
    the three plain routes (`stage_opts_effective`). -/
theorem funcArgs_stage_opts_effective (inner : Variant) (u : User) (hu : WF u) (hcf : Configurable inner)
    (cs : List StageCall) (h : emitFuncArgs false inner u = .ok cs) :
    Obeys (optA u.imf) (optA u.env) (optA u.ext) cs := by
  have hu0 : WF ⟨u.top, none, none, none⟩ :=
    ⟨hu.clean, hu.topSlash, nofun, nofun, nofun, List.nodup_nil, List.nodup_nil, List.nodup_nil⟩
  rw [emitFuncArgs, kwargsConfig_eq hcf.mem hu0] at h
  have ob := (runVariant_spec inner (show runVariant false inner _ = _ from h)).1
  obtain ⟨k1, k2, k3⟩ := kwArg_configKw (u := ⟨u.top, none, none, none⟩) (baseVariant inner)
  obtain ⟨m1, m2, m3⟩ := kwArg_mergeKw_opts (configKw (baseVariant inner) ⟨u.top, none, none, none⟩) u.imf u.env u.ext
  rw [imfOf, if_neg hcf.ne_nextImf, m1, m2, m3, k1, k2, k3] at ob
  -- a dictionary the user passes replaces the stored one; otherwise the stored defaults, which repeat the signature's
  have key : ∀ {f : Tree → Tree} (dflt : Assoc) (o : Option Assoc) {p : Key} {d : Tree}, f ((dflt.lookup p).getD d) = f d →
      f (((dictOf ((o.map Tree.dict).getD (.dict dflt))).lookup p).getD d) = f (((optA o).lookup p).getD d) := by
    intro f dflt o p d hd
    cases o with
    | some a => rfl
    | none => exact hd
  exact ob.congr (fun p d hp => key (f := id) gniOwn u.imf (by rw [hp]; rfl))
    (fun p d hp => key (f := id) envDefaults u.env (getD_of_resolve_eq envDefaults_resolve hp))
    (fun p d hp => key extDefaults u.ext (extDefaults_agree hp))

-- non-vacuity: the partial of `get_config('sift')` holds interp_method 'splrep'; `sift_args` says 'pchip': 'pchip' it is
example : ∃ cs, emitFuncArgs false .sift pchipUser = .ok cs ∧
    (cs.filter (·.stage = .ie)).map (fun c => c.args.lookup "interp_method".toList) = [some (s "pchip"), some (s "pchip")] :=
  by decide +kernel
example : ∃ cs, emitFuncArgs false .mask rilling3User = .ok cs ∧
    (cs.filter (·.stage = .gni)).map (fun c => c.args.lookup "stop_method".toList) = [some (s "rilling"), some (s "rilling")] :=
  by decide +kernel
example : Configurable .sift ∧ Configurable .mask := ⟨Or.inl rfl, Or.inr (Or.inr (Or.inr rfl))⟩

end C06
