/-
  C09 — instantaneous phase, frequency and amplitude are consistent and accurate.
  Property theorems only (helper lemmas: Proofs/Lemmas/Phase*.lean).

  All statements are about the executable model `EmdModel.Phase`, in exact rational
  arithmetic, for every input, every length, every sample rate, every value of the float
  constants and every analytic-signal / envelope oracle meeting the stated hypotheses.

  PARTIAL (full property kept visible): "For a pure sinusoid of any in-band frequency,
  amplitude and starting phase the interior estimates recover that frequency, amplitude and
  phase within a small tolerance" is a statement about the numerical accuracy of the FFT
  Hilbert transform, pchip/spline envelopes and a 5-point median filter.  These are oracles
  of the model; that sub-claim is decided by the instance check of harness/props/c09.py only.
  Likewise `x % 2π` can return exactly `2π` in float64 for a tiny negative `x`
  (ulp-level); `wrap_range` below is the exact-arithmetic statement.

  Amplitude samples are `Option Rat`, `none` standing for NaN: the `nht` / `quad` methods
  return an all-NaN amplitude column (no error) where the upper envelope does not exist.
-/
import Proofs.Lemmas.Phase
import Proofs.Lemmas.PhaseUnwrap
import Proofs.Lemmas.PhaseNorm
import Proofs.Lemmas.PhaseScale

namespace C09
open Phase

/-! ## phase range -/

/-- Wrapped phase lies in `[0, m)` for every modulus `m > 0` (in particular `m = 2π`). -/
theorem wrap_range (m x : Rat) (hm : 0 < m) : 0 ≤ wrap m x ∧ wrap m x < m :=
  ⟨wrap_nonneg hm x, wrap_lt hm x⟩

/-- Wrapping ignores whole periods. -/
theorem wrap_periodic (m x : Rat) (k : Int) (hm : 0 < m) : wrap m (x + k * m) = wrap m x :=
  wrap_add_int_mul (ne_of_gt hm) x k

/-- Specification of `wrap`: the unique `r ∈ [0, m)` with `x = r + k·m`, `k` an integer. -/
theorem wrap_spec (m x r : Rat) (hm : 0 < m) :
    wrap m x = r ↔ (0 ≤ r ∧ r < m ∧ ∃ k : Int, x = r + k * m) := by
  constructor
  · rintro rfl
    exact ⟨wrap_nonneg hm x, wrap_lt hm x, (x / m).floor, wrap_decomp m x⟩
  · rintro ⟨h0, h1, k, hx⟩
    exact wrap_unique k h0 h1 hx

/-- `wrap_phase(mode='-pi2pi')` lands in `[-h, m - h)`. -/
theorem wrapCentered_range (m h x : Rat) (hm : 0 < m) :
    -h ≤ wrapCentered m h x ∧ wrapCentered m h x < m - h := by
  unfold wrapCentered
  exact ⟨by simpa only [zero_sub] using sub_le_sub_right (wrap_nonneg hm (x + h)) h,
    sub_lt_sub_right (wrap_lt hm (x + h)) h⟩

/-! ## shapes; frequency is the scaled derivative of the phase that is returned -/

/-- On a column of at least 2 samples the transform returns, and its three outputs have the
    length of the input column, provided the analytic-signal oracle preserves length. -/
theorem ft_shapes (H : List Rat → List Rat × List (Option Rat)) (halfPi twoPi sr : Rat) (x : List Rat)
    (h2 : 2 ≤ x.length)
    (hU : (H x).1.length = x.length) (hA : (H x).2.length = x.length) :
    ∃ r, frequencyTransform? H halfPi twoPi sr x = some r ∧
      r.1.length = x.length ∧ r.2.1.length = x.length ∧ r.2.2.length = x.length := by
  refine ⟨frequencyTransform H halfPi twoPi sr x, ?_, ?_⟩
  · simp [frequencyTransform?]; omega
  · simp [frequencyTransform, hU, hA]

/-- On fewer than 2 samples the transform raises (the implementation: `np.gradient` ValueError,
    `quadrature_transform` IndexError), whatever the oracle. -/
theorem ft_short_input_raises (H : List Rat → List Rat × List (Option Rat)) (halfPi twoPi sr : Rat)
    (x : List Rat) (h : x.length < 2) : frequencyTransform? H halfPi twoPi sr x = none := by
  simp [frequencyTransform?, h]

/-- ... and where it returns, it returns the value of `frequencyTransform` (about which all
    statements below are made). -/
theorem ft_some_iff (H : List Rat → List Rat × List (Option Rat)) (halfPi twoPi sr : Rat)
    (x : List Rat) (r : List Rat × List Rat × List (Option Rat)) :
    frequencyTransform? H halfPi twoPi sr x = some r ↔
      2 ≤ x.length ∧ r = frequencyTransform H halfPi twoPi sr x := by
  unfold frequencyTransform?
  split
  · simp; omega
  · simp only [Option.some.injEq]
    constructor
    · rintro rfl; exact ⟨by omega, rfl⟩
    · rintro ⟨_, rfl⟩; rfl

/-- With `(U, A) = H imf`: the returned phase is `wrap (U + π/2)`, the returned frequency is
    `sr/(2π) · gradient U` *of the same `U`* (the quarter-cycle offset does not reach the
    frequency), the returned amplitude is `A`; every phase sample is in `[0, 2π)`. -/
theorem freq_is_scaled_gradient (H : List Rat → List Rat × List (Option Rat)) (halfPi twoPi sr : Rat)
    (x : List Rat) (h2 : 2 ≤ (H x).1.length) (hm : 0 < twoPi) :
    let r := frequencyTransform H halfPi twoPi sr x
    r.1 = (H x).1.map (fun u => wrap twoPi (u + halfPi)) ∧
    r.2.1 = (gradient (H x).1).map (fun g => g / twoPi * sr) ∧
    r.2.2 = (H x).2 ∧
    ∀ p ∈ r.1, 0 ≤ p ∧ p < twoPi := by
  refine ⟨?_, ?_, rfl, ?_⟩
  · simp [frequencyTransform, List.map_map, Function.comp_def]
  · simp only [frequencyTransform, freqFromPhase]
    rw [gradient_add_const halfPi h2]
  · intro p hp
    simp only [frequencyTransform, List.map_map, List.mem_map] at hp
    obtain ⟨u, _, rfl⟩ := hp
    exact ⟨wrap_nonneg hm _, wrap_lt hm _⟩

/-- numpy's `unwrap` inverts `wrap` on a phase whose consecutive samples differ by less than
    half a period, up to a whole number `k` of periods (those that `wrap` removed from the first sample:
    `unwrap_wrap_list`). -/
theorem unwrap_wrap (m : Rat) (hm : 0 < m) (U : List Rat) (hs : Slow (m / 2) U) :
    ∃ k : Int, unwrap m (U.map (wrap m)) = U.map (fun v => v - k * m) := by
  refine ⟨((U.headD 0) / m).floor, ?_⟩
  rw [unwrap_wrap_list hs]
  apply List.map_congr_left
  intro v _
  unfold wrap
  ring

/-- The property's own wording: on a column whose phase moves by less than π per sample throughout (`hs`), the
    returned frequency is the sample-rate-scaled derivative of the *unwrapped returned phase*:
    `IF = sr/(2π) · gradient (np.unwrap IP)`. -/
theorem freq_is_gradient_of_unwrapped_output (H : List Rat → List Rat × List (Option Rat))
    (halfPi twoPi sr : Rat) (x : List Rat) (h2 : 2 ≤ (H x).1.length) (hm : 0 < twoPi)
    (hs : Slow (twoPi / 2) (H x).1) :
    let r := frequencyTransform H halfPi twoPi sr x
    r.2.1 = freqFromPhase twoPi sr (unwrap twoPi r.1) := by
  simp only [frequencyTransform]
  rw [unwrap_wrap_list (slow_add_const halfPi hs), freqFromPhase, freqFromPhase,
    gradient_add_const _ (x := (H x).1.map fun u => u + halfPi) (by simpa using h2)]

/-! ## scale invariance

  `smul c x = x.map (c * ·)`; `smulAmp c a` multiplies every amplitude sample by `c` (NaN stays NaN).
  `ft_hilbert_scale`, `ft_nht_scale`, `ft_nht_scale_any` and `ft_quad_scale` state the law
  `frequency_transform(c·x) = (phase, frequency, c·amplitude)` of the run on `x` for `c > 0`.
  Their only hypotheses on the library are contracts of single library functions, each evaluated
  on the real functions on every run (harness stream `library_assumptions`):
    hlin  scipy.signal.hilbert(c·x) = c·hilbert(x)
    hang  np.angle(c·z) = np.angle(z)          habs  np.abs(c·z) = c·np.abs(z)
    hEc   interp_envelope(c·x, 'combined') = c·interp_envelope(x, 'combined')   (same None-ness)
    hEu   interp_envelope(c·x, 'upper')    = c·interp_envelope(x, 'upper')      (same None-ness)
  All of them are contracts for `c > 0` only (`abs`, the angle and the combined envelope scale
  with `|c|` / flip for `c < 0`), hence `0 < c` is a hypothesis throughout.
  The reductions of the branch oracles are in Proofs/Lemmas/PhaseScale.lean. -/

/-- Without an envelope (too few extrema) the signal is returned unchanged. -/
theorem amplitudeNormalise_no_envelope (E : Nat → List Rat → Option (List Rat)) (thresh : Rat)
    (maxIters : Nat) (x : List Rat) (hx : E 0 x = none) :
    amplitudeNormalise E thresh maxIters x = x := by
  simp [amplitudeNormalise, hx]

/-- Amplitude normalisation is scale free: on a column that has an envelope (`hx`), with the envelope
    oracle homogeneous there (`hcx`) and at least one normalisation pass, `c • x` and `x` normalise to the
    same signal (the first division removes the factor; all later iterates coincide). -/
theorem amplitudeNormalise_scale_free (E : Nat → List Rat → Option (List Rat)) (thresh : Rat)
    (maxIters : Nat) (c : Rat) (x : List Rat) (hc : 0 < c) (hk : 1 ≤ maxIters)
    (env : List Rat) (hx : E 0 x = some env)
    (hcx : E 0 (smul c x) = some (smul c env)) :
    amplitudeNormalise E thresh maxIters (smul c x)
      = amplitudeNormalise E thresh maxIters x := by
  unfold amplitudeNormalise
  rw [hx, hcx]
  obtain ⟨n, rfl⟩ : ∃ n, maxIters = n + 1 := ⟨maxIters - 1, by omega⟩
  have hdiv : List.zipWith (· / ·) (smul c x) (smul c env) = List.zipWith (· / ·) x env := by
    rw [List.zipWith_map_left, List.zipWith_map_right]
    congr 1
    funext a b
    exact mul_div_mul_left a b (ne_of_gt hc)
  unfold anLoop
  simp only [hdiv]

/-- **No absolute threshold in the normalisation**: with a positively homogeneous envelope oracle, on a column
    that has an envelope the normalised column of `c • x` is the same for EVERY positive factor `c` — `2⁻⁴⁰` as well
    as `1` or `2⁴⁰` — so the result depends on the direction of `x` only; on a column that has none, `c • x` is
    returned as it is at every amplitude (`amplitudeNormalise_no_envelope`).  A test of the samples against a fixed
    number before normalising (`np.allclose(X, 0)`, seeded C09-5) contradicts this for small `c`. -/
theorem amplitudeNormalise_no_absolute_threshold (E : Nat → List Rat → Option (List Rat)) (thresh : Rat)
    (maxIters : Nat) (x : List Rat) (hk : 1 ≤ maxIters)
    (hE : ∀ c, 0 < c → E 0 (smul c x) = (E 0 x).map (smul c)) (c d : Rat) (hc : 0 < c) (hd : 0 < d) :
    (∀ env, E 0 x = some env →
      amplitudeNormalise E thresh maxIters (smul c x) = amplitudeNormalise E thresh maxIters (smul d x)) ∧
    (E 0 x = none → amplitudeNormalise E thresh maxIters (smul c x) = smul c x) := by
  refine ⟨fun env hx => ?_, fun hx => ?_⟩
  · rw [amplitudeNormalise_scale_free E thresh maxIters c x hc hk env hx (by rw [hE c hc, hx]; rfl),
      amplitudeNormalise_scale_free E thresh maxIters d x hd hk env hx (by rw [hE d hd, hx]; rfl)]
  · exact amplitudeNormalise_no_envelope E thresh maxIters _ (by rw [hE c hc, hx]; rfl)

/-- `hilbert` method: phase and frequency of `c·x` are those of `x`, the amplitude is `c` times
    the amplitude of `x`. -/
theorem ft_hilbert_scale (O : Analytic) (halfPi twoPi sr c : Rat) (x : List Rat) (_hc : 0 < c)
    (hlin : O.hilbert (smul c x) = (O.hilbert x).map fun z => (c * z.1, c * z.2))
    (hang : ∀ z, O.angle (c * z.1, c * z.2) = O.angle z)
    (habs : ∀ z, O.abs (c * z.1, c * z.2) = c * O.abs z) :
    let r := frequencyTransform O.hilbertH halfPi twoPi sr x
    frequencyTransform O.hilbertH halfPi twoPi sr (smul c x) = (r.1, r.2.1, smulAmp c r.2.2) :=
  frequencyTransform_scale_of_oracle halfPi twoPi sr (hilbertH_scale hlin hang habs)

/-- `nht` method on an oscillatory column (the combined envelope exists, i.e. the column is
    amplitude-normalised at least once: `max_iters = 3` in the implementation): only homogeneity
    of the two envelope interpolants is needed.  The amplitude may still be NaN (`envU x = none`:
    fewer peaks than the upper envelope needs); then it is NaN for `c·x` as well. -/
theorem ft_nht_scale (O : Analytic) (E : Nat → List Rat → Option (List Rat)) (thresh : Rat)
    (maxIters : Nat) (envU : List Rat → Option (List Rat)) (halfPi twoPi sr c : Rat) (x : List Rat)
    (hc : 0 < c) (hk : 1 ≤ maxIters) (env : List Rat) (hx : E 0 x = some env)
    (hEc : E 0 (smul c x) = some (smul c env))
    (hEu : envU (smul c x) = (envU x).map (smul c)) :
    let H := O.nhtH (amplitudeNormalise E thresh maxIters) envU
    let r := frequencyTransform H halfPi twoPi sr x
    frequencyTransform H halfPi twoPi sr (smul c x) = (r.1, r.2.1, smulAmp c r.2.2) :=
  frequencyTransform_scale_of_oracle halfPi twoPi sr
    (nhtH_scale (amplitudeNormalise_scale_free E thresh maxIters c x hc hk env hx hEc) hEu)

/-- `nht` method on any column, oscillatory or not: with the Hilbert transform linear and the angle
    scale invariant in addition, the law holds also where `amplitude_normalise` finds no envelope
    and leaves the column as it is. -/
theorem ft_nht_scale_any (O : Analytic) (E : Nat → List Rat → Option (List Rat)) (thresh : Rat)
    (maxIters : Nat) (envU : List Rat → Option (List Rat)) (halfPi twoPi sr c : Rat) (x : List Rat)
    (hc : 0 < c) (hk : 1 ≤ maxIters)
    (hlin : O.hilbert (smul c x) = (O.hilbert x).map fun z => (c * z.1, c * z.2))
    (hang : ∀ z, O.angle (c * z.1, c * z.2) = O.angle z)
    (hEc : E 0 (smul c x) = (E 0 x).map (smul c))
    (hEu : envU (smul c x) = (envU x).map (smul c)) :
    let H := O.nhtH (amplitudeNormalise E thresh maxIters) envU
    let r := frequencyTransform H halfPi twoPi sr x
    frequencyTransform H halfPi twoPi sr (smul c x) = (r.1, r.2.1, smulAmp c r.2.2) := by
  cases hx : E 0 x with
  | some env => exact ft_nht_scale O E thresh maxIters envU halfPi twoPi sr c x hc hk env hx (by rw [hEc, hx]; rfl) hEu
  | none =>
    have hcx : E 0 (smul c x) = none := by rw [hEc, hx]; rfl
    exact frequencyTransform_scale_of_oracle halfPi twoPi sr
      (nhtH_scale_raw (amplitudeNormalise_no_envelope E thresh maxIters x hx)
        (amplitudeNormalise_no_envelope E thresh maxIters _ hcx) hlin hang hEu)

/-- `quad` method on an oscillatory column: the quadrature signal is built from the normalised
    column only, so homogeneity of the two envelope interpolants suffices. -/
theorem ft_quad_scale (O : Analytic) (E : Nat → List Rat → Option (List Rat)) (thresh : Rat)
    (maxIters : Nat) (envU : List Rat → Option (List Rat)) (sqrtT : List Rat → List Rat)
    (halfPi twoPi sr c : Rat) (x : List Rat)
    (hc : 0 < c) (hk : 1 ≤ maxIters) (env : List Rat) (hx : E 0 x = some env)
    (hEc : E 0 (smul c x) = some (smul c env))
    (hEu : envU (smul c x) = (envU x).map (smul c)) :
    let H := O.quadH (amplitudeNormalise E thresh maxIters) envU sqrtT
    let r := frequencyTransform H halfPi twoPi sr x
    frequencyTransform H halfPi twoPi sr (smul c x) = (r.1, r.2.1, smulAmp c r.2.2) :=
  frequencyTransform_scale_of_oracle halfPi twoPi sr
    (quadH_scale sqrtT (amplitudeNormalise_scale_free E thresh maxIters c x hc hk env hx hEc) hEu)

/-- The envelope hypothesis `hx` of `ft_quad_scale` cannot be dropped (unlike for `nht`):
    on a column without a combined envelope the clipped *raw* samples enter the quadrature
    signal, and clipping does not commute with rescaling.  Witness: the ramp `[0, 1/4, 1/2, 3/4]`,
    `c = 2`, a library meeting every contract for every input, yet a different phase.  (The real
    `frequency_transform(x, 1, 'quad')` on the same ramp: phases differ by 1.047 rad; corpus case.) -/
theorem ft_quad_scale_needs_envelope :
    ∃ (O : Analytic) (E : Nat → List Rat → Option (List Rat)) (envU : List Rat → Option (List Rat))
      (sqrtT : List Rat → List Rat) (x : List Rat) (c : Rat), 0 < c ∧
      (∀ y, O.hilbert (smul c y) = (O.hilbert y).map fun z => (c * z.1, c * z.2)) ∧
      (∀ z, O.angle (c * z.1, c * z.2) = O.angle z) ∧
      (∀ z, O.abs (c * z.1, c * z.2) = c * O.abs z) ∧
      (∀ k y, E k (smul c y) = (E k y).map (smul c)) ∧
      (∀ y, envU (smul c y) = (envU y).map (smul c)) ∧
      E 0 x = none ∧
      (frequencyTransform (O.quadH (amplitudeNormalise E (1 / 10) 3) envU sqrtT) 0 4 1 (smul c x)).1
        ≠ (frequencyTransform (O.quadH (amplitudeNormalise E (1 / 10) 3) envU sqrtT) 0 4 1 x).1 := by
  refine ⟨Witness.O, fun _ _ => none, Witness.noEnv, Witness.sq, [0, 1 / 4, 1 / 2, 3 / 4], 2, by decide +kernel,
    Witness.O_hilbert_linear 2, fun z => Witness.O_angle_scale (by decide +kernel) z,
    fun z => Witness.O_abs_scale (by decide +kernel) z, fun _ _ => rfl, fun _ => rfl, rfl, ?_⟩
  decide +kernel

/-! ## the non-oscillatory column: NaN amplitude -/

/-- `nht` / `quad` on a column for which `interp_envelope(mode='upper')` returns `None`
    (fewer peaks than the envelope needs, e.g. a ramp or a constant): the amplitude is NaN at
    every sample — silently, no error — while phase and frequency are computed as usual. -/
theorem ft_nht_nonoscillatory (O : Analytic) (norm : List Rat → List Rat)
    (envU : List Rat → Option (List Rat)) (halfPi twoPi sr : Rat) (x : List Rat)
    (h : envU x = none) :
    (frequencyTransform (O.nhtH norm envU) halfPi twoPi sr x).2.2 = List.replicate x.length none := by
  simp [frequencyTransform, Analytic.nhtH, h, ampOfEnv]

theorem ft_quad_nonoscillatory (O : Analytic) (norm : List Rat → List Rat)
    (envU : List Rat → Option (List Rat)) (sqrtT : List Rat → List Rat) (halfPi twoPi sr : Rat)
    (x : List Rat) (h : envU x = none) :
    (frequencyTransform (O.quadH norm envU sqrtT) halfPi twoPi sr x).2.2
      = List.replicate x.length none := by
  simp [frequencyTransform, Analytic.quadH, h, ampOfEnv]

/-- Conversely, where the upper envelope exists the amplitude of `nht` / `quad` is that envelope, free
    of NaN. -/
theorem ft_nht_amplitude_is_envelope (O : Analytic) (norm : List Rat → List Rat)
    (envU : List Rat → Option (List Rat)) (sqrtT : List Rat → List Rat) (halfPi twoPi sr : Rat)
    (x e : List Rat) (h : envU x = some e) :
    (frequencyTransform (O.nhtH norm envU) halfPi twoPi sr x).2.2 = e.map some ∧
    (frequencyTransform (O.quadH norm envU sqrtT) halfPi twoPi sr x).2.2 = e.map some := by
  simp [frequencyTransform, Analytic.nhtH, Analytic.quadH, h, ampOfEnv]

/-- The `hilbert` method never returns a NaN amplitude. -/
theorem ft_hilbert_amplitude_finite (O : Analytic) (halfPi twoPi sr : Rat) (x : List Rat) :
    ∀ a ∈ (frequencyTransform O.hilbertH halfPi twoPi sr x).2.2, a.isSome := by
  intro a ha
  simp only [frequencyTransform, Analytic.hilbertH, List.mem_map] at ha
  obtain ⟨_, _, rfl⟩ := ha
  rfl

/-- On a column without combined envelope the `nht` phase and frequency are those of the plain Hilbert
    method (the normalisation is the identity there). -/
theorem ft_nht_no_envelope_phase (O : Analytic) (E : Nat → List Rat → Option (List Rat)) (thresh : Rat)
    (maxIters : Nat) (envU : List Rat → Option (List Rat)) (halfPi twoPi sr : Rat) (x : List Rat)
    (h : E 0 x = none) :
    let r := frequencyTransform (O.nhtH (amplitudeNormalise E thresh maxIters) envU) halfPi twoPi sr x
    let rh := frequencyTransform O.hilbertH halfPi twoPi sr x
    r.1 = rh.1 ∧ r.2.1 = rh.2.1 := by
  simp [frequencyTransform, Analytic.nhtH, Analytic.hilbertH, amplitudeNormalise_no_envelope E thresh maxIters x h]

/-! ## amplitude normalisation under positive envelopes; the quadrature signal -/

/-- Amplitude normalisation preserves length and which samples are positive (`0 < y[i] ↔ 0 < x[i]`)
    when the envelopes are positive and as long as their input. -/
theorem amplitudeNormalise_sign (E : Nat → List Rat → Option (List Rat)) (thresh : Rat)
    (maxIters : Nat) (x : List Rat)
    (hE : ∀ k y env, E k y = some env → env.length = y.length) (hp : PosEnv E) :
    (amplitudeNormalise E thresh maxIters x).length = x.length ∧
    ∀ i, 0 < getR (amplitudeNormalise E thresh maxIters x) i ↔ 0 < getR x i := by
  unfold amplitudeNormalise
  split
  · exact ⟨rfl, fun _ => Iff.rfl⟩
  · rename_i env he
    exact anLoop_sign E thresh hE hp _ _ _ _ (hE _ _ _ he) (hp _ _ _ he)

/-- Positivity of the envelopes cannot be weakened to "never zero": with a negative envelope
    (length-preserving, nowhere zero) a positive sample is normalised to one that is not positive.  Real library:
    the `splrep` combined envelope of some noise records dips below 0 and
    `amplitude_normalise(interp_method='splrep')` flips signs there (harness corpus), which is why
    `PosEnv` is validated on every run and assumed for the pchip interpolants only. -/
theorem amplitudeNormalise_sign_needs_posEnv :
    ∃ (E : Nat → List Rat → Option (List Rat)) (x : List Rat),
      (∀ k y env, E k y = some env → env.length = y.length) ∧
      (∀ k y env, E k y = some env → ∀ e ∈ env, e ≠ 0) ∧
      0 < getR x 0 ∧ ¬ 0 < getR (amplitudeNormalise E (1 / 10) 3 x) 0 := by
  refine ⟨fun _ y => some (y.map fun _ => -1), [1], ?_, ?_, by decide +kernel, ?_⟩
  · intro k y env h; cases h; simp
  · intro k y env h e he; cases h
    simp only [List.mem_map] at he
    obtain ⟨_, _, rfl⟩ := he; decide +kernel
  · decide +kernel

/-- The quadrature signal has unit modulus: with `s[i]² = 1 − nX[i]²` (the sqrt table),
    `nX[i]² + q[i]² = 1` at every sample, and `q` has the input's length. -/
theorem quad_unit_modulus (nX s q : List Rat) (hs : s.length = nX.length)
    (hq : quadImag? nX s = some q)
    (hsq : ∀ i, i < nX.length → getR s i * getR s i = 1 - getR nX i * getR nX i) :
    q.length = nX.length ∧
    ∀ i, i < nX.length → getR nX i * getR nX i + getR q i * getR q i = 1 := by
  obtain ⟨hl, h⟩ := quadImag_sq hs hq
  exact ⟨hl, fun i hi => by rw [h i hi, hsq i hi, add_sub_cancel]⟩

/-! ## frequency → phase → frequency -/

/-- Converting a frequency profile to phase and back gives, at every interior sample
    `1 ≤ i ≤ n−2`, the mean of the profile at `i` and `i+1` (two-sample averaging of the
    central difference), for every start phase. -/
theorem roundtrip_interior (twoPi sr start : Rat) (htp : twoPi ≠ 0) (hsr : sr ≠ 0) (f : List Rat)
    (i : Nat) (h1 : 1 ≤ i) (h2 : i + 1 < f.length) :
    (freqFromPhase twoPi sr (phaseFromFreq twoPi sr start f))[i]?
      = some ((f[i]'(by omega) + f[i + 1]'h2) / 2) := by
  rw [roundtrip_getElem? htp hsr (by omega) (by omega), smoothed, if_neg (by omega), if_neg (by omega),
    getR_of_lt, getR_of_lt]

/-- At the two ends the one-sided differences give `f[1]` at sample 0 and `f[n−1]` at sample `n−1`. -/
theorem roundtrip_edges (twoPi sr start : Rat) (htp : twoPi ≠ 0) (hsr : sr ≠ 0) (f : List Rat)
    (hn : 2 ≤ f.length) :
    (freqFromPhase twoPi sr (phaseFromFreq twoPi sr start f))[0]? = some (f[1]'(by omega)) ∧
    (freqFromPhase twoPi sr (phaseFromFreq twoPi sr start f))[f.length - 1]?
      = some (f[f.length - 1]'(by omega)) := by
  constructor
  · rw [roundtrip_getElem? htp hsr (by omega) hn, smoothed, if_pos rfl, getR_of_lt]
  · rw [roundtrip_getElem? htp hsr (by omega) hn, smoothed, if_neg (by omega), if_pos (by omega),
      getR_of_lt]

/-- Where the profile is locally constant the round trip is exact. -/
theorem roundtrip_locally_const (twoPi sr start : Rat) (htp : twoPi ≠ 0) (hsr : sr ≠ 0)
    (f : List Rat) (i : Nat) (h1 : 1 ≤ i) (h2 : i + 1 < f.length)
    (hc : f[i + 1]'h2 = f[i]'(by omega)) :
    (freqFromPhase twoPi sr (phaseFromFreq twoPi sr start f))[i]? = some (f[i]'(by omega)) := by
  rw [roundtrip_interior twoPi sr start htp hsr f i h1 h2, hc]
  congr 1; ring

/-- A constant profile is reproduced exactly at every sample, ends included. -/
theorem roundtrip_const (twoPi sr start c : Rat) (htp : twoPi ≠ 0) (hsr : sr ≠ 0) (n : Nat)
    (hn : 2 ≤ n) :
    freqFromPhase twoPi sr (phaseFromFreq twoPi sr start (List.replicate n c))
      = List.replicate n c := by
  apply List.ext_getElem?
  intro i
  by_cases hi : i < n
  · rw [roundtrip_getElem? htp hsr (by simpa using hi) (by simpa using hn)]
    unfold smoothed
    rw [List.length_replicate, List.getElem?_replicate, if_pos hi]
    congr 1
    split
    · exact getR_replicate c hn
    · split
      · exact getR_replicate c hi
      · rw [getR_replicate c hi, getR_replicate c (by omega), add_self_div_two]
  · rw [List.getElem?_eq_none (by simp; omega), List.getElem?_eq_none (by simp; omega)]

/-! ## Non-vacuity: the hypotheses are satisfiable on concrete non-trivial inputs. -/

-- wrap on the two sides of zero and beyond one period (m = 6 stands in for 2π)
example : wrap 6 (-1) = 5 ∧ wrap 6 13 = 1 ∧ wrap 6 6 = 0 := by decide +kernel

-- a slowly varying phase (all steps below 3 = m/2) satisfies the hypothesis of `unwrap_wrap`
example : Slow (6 / 2) [0, 2, 4, 13 / 2, 9, 8, 10] := by
  simp only [Slow]
  decide +kernel

-- the index hypotheses of `roundtrip_interior` can be met: n = 4, i = 2
example : (1 : Nat) ≤ 2 ∧ 2 + 1 < [(1 : Rat), 2, 4, 8].length := by decide +kernel

-- the hypotheses of the three scale theorems are met together by the toy library `Witness.O`
-- (linear `hilbert`, scale-invariant `angle`, homogeneous `abs`) and the homogeneous envelope
-- oracle `Witness.E`, on x = [2, -4, 6], c = 3; the theorems apply
example :
    let r := frequencyTransform Witness.O.hilbertH 1 6 100 [2, -4, 6]
    frequencyTransform Witness.O.hilbertH 1 6 100 (smul 3 [2, -4, 6]) = (r.1, r.2.1, smulAmp 3 r.2.2) :=
  ft_hilbert_scale Witness.O 1 6 100 3 [2, -4, 6] (by decide +kernel) (Witness.O_hilbert_linear 3 _)
    (fun z => Witness.O_angle_scale (by decide +kernel) z) (fun z => Witness.O_abs_scale (by decide +kernel) z)

example : Witness.E 0 [2, -4, 6] = some [2, 2, 2] ∧
    Witness.E 0 (smul 3 [2, -4, 6]) = some (smul 3 [2, 2, 2]) := by
  decide +kernel

example :
    let H := Witness.O.nhtH (amplitudeNormalise Witness.E (1 / 10) 3) (Witness.E 0)
    let r := frequencyTransform H 1 6 100 [2, -4, 6]
    frequencyTransform H 1 6 100 (smul 3 [2, -4, 6]) = (r.1, r.2.1, smulAmp 3 r.2.2) :=
  ft_nht_scale Witness.O Witness.E (1 / 10) 3 (Witness.E 0) 1 6 100 3 [2, -4, 6] (by decide +kernel) (by decide +kernel)
    [2, 2, 2] (by decide +kernel) (by decide +kernel)
    (Witness.E_homogeneous (by decide +kernel) 0 _)

example :
    let H := Witness.O.quadH (amplitudeNormalise Witness.E (1 / 10) 3) (Witness.E 0) Witness.sq
    let r := frequencyTransform H 1 6 100 [2, -4, 6]
    frequencyTransform H 1 6 100 (smul 3 [2, -4, 6]) = (r.1, r.2.1, smulAmp 3 r.2.2) :=
  ft_quad_scale Witness.O Witness.E (1 / 10) 3 (Witness.E 0) Witness.sq 1 6 100 3 [2, -4, 6] (by decide +kernel)
    (by decide +kernel) [2, 2, 2] (by decide +kernel) (by decide +kernel)
    (Witness.E_homogeneous (by decide +kernel) 0 _)

-- `ft_nht_scale_any` on a column without envelope (2 samples: `Witness.E` answers `none`)
example :
    let H := Witness.O.nhtH (amplitudeNormalise Witness.E (1 / 10) 3) (Witness.E 0)
    let r := frequencyTransform H 1 6 100 [2, -4]
    Witness.E 0 [2, -4] = none ∧
    frequencyTransform H 1 6 100 (smul 3 [2, -4]) = (r.1, r.2.1, smulAmp 3 r.2.2) :=
  ⟨by decide +kernel,
   ft_nht_scale_any Witness.O Witness.E (1 / 10) 3 (Witness.E 0) 1 6 100 3 [2, -4] (by decide +kernel) (by decide +kernel)
    (Witness.O_hilbert_linear 3 _) (fun z => Witness.O_angle_scale (by decide +kernel) z)
    (Witness.E_homogeneous (by decide +kernel) 0 _) (Witness.E_homogeneous (by decide +kernel) 0 _)⟩

-- the non-oscillatory hypothesis is met by `Witness.E 0` on a 2-sample column, and the amplitude
-- really is NaN at both samples
example : (frequencyTransform (Witness.O.nhtH id (Witness.E 0)) 1 6 100 [2, -4]).2.2 = [none, none] :=
  ft_nht_nonoscillatory Witness.O id (Witness.E 0) 1 6 100 [2, -4] (by decide +kernel)

-- the hypotheses of `amplitudeNormalise_scale_free` hold for x = [2, -4, 6], c = 3
example :
    amplitudeNormalise Witness.E (1 / 10) 3 (smul 3 [2, -4, 6])
      = amplitudeNormalise Witness.E (1 / 10) 3 [2, -4, 6] :=
  amplitudeNormalise_scale_free Witness.E (1 / 10) 3 3 [2, -4, 6] (by decide +kernel) (by decide +kernel)
    [2, 2, 2] (by decide +kernel) (by decide +kernel)

-- … and for a tiny factor: c = 2⁻⁴⁰ (samples ≈ 1e-12, far below any fixed tolerance) normalises to the same column
example :
    amplitudeNormalise Witness.E (1 / 10) 3 (smul (1 / 1099511627776) [2, -4, 6])
      = amplitudeNormalise Witness.E (1 / 10) 3 (smul 1 [2, -4, 6]) :=
  (amplitudeNormalise_no_absolute_threshold Witness.E (1 / 10) 3 [2, -4, 6] (by decide +kernel)
    (fun c hc => Witness.E_homogeneous hc 0 _) (1 / 1099511627776) 1 (by decide +kernel) (by decide +kernel)).1
    [2, 2, 2] (by decide +kernel)

-- short and long input of `frequencyTransform?`
example : ([] : List Rat).length < 2 ∧ [(1 : Rat)].length < 2 ∧ 2 ≤ [(1 : Rat), 2].length := by decide +kernel

-- the sqrt-table hypothesis of `quad_unit_modulus` on a 3-4-5 sampled half cycle
example : ∀ i, i < [(0 : Rat), 3 / 5, 1, 3 / 5].length →
    getR [(1 : Rat), 4 / 5, 0, 4 / 5] i * getR [(1 : Rat), 4 / 5, 0, 4 / 5] i
      = 1 - getR [(0 : Rat), 3 / 5, 1, 3 / 5] i * getR [(0 : Rat), 3 / 5, 1, 3 / 5] i := by
  decide +kernel

end C09
