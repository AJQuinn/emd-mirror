/-
  C05 — extrema are exact and envelopes interpolate them on the sample grid.
  Property theorems only (helper lemmas: Proofs/Lemmas/Extrema*.lean).
  All statements are about the executable model `EmdModel.Extrema`
  (`findPeaks`, `parabolic`, `padOdd`, `paddedExtrema`, `envGrid`, `interpEnvelope I`),
  for every signal of every length, every pad width, every mode, refinement on or off,
  and every interpolant `I` (an oracle).
-/
import Proofs.Lemmas.ExtremaEnv

namespace C05
open Extrema

/-! ## 1. Detected extrema are exactly the strict interior local maxima / minima -/

/-- A peak is an index with both neighbours inside the signal and strictly below it:
    end samples and plateaus (ties on either side) are never extrema. -/
theorem mem_findPeaks (x : Sig) (i : Nat) :
    i ∈ findPeaks x ↔ 0 < i ∧ i + 1 < x.length ∧ x[i - 1]! < x[i]! ∧ x[i + 1]! < x[i]! := by
  rw [mem_findPeaks_at', at'_eq_getElem!, at'_eq_getElem!, at'_eq_getElem!]

/-- Troughs (peaks of the negated signal) are exactly the strict interior local minima. -/
theorem mem_findTroughs (x : Sig) (i : Nat) :
    i ∈ findTroughs x ↔ 0 < i ∧ i + 1 < x.length ∧ x[i]! < x[i - 1]! ∧ x[i]! < x[i + 1]! := by
  unfold findTroughs
  rw [mem_findPeaks_at', at'_neg, at'_neg, at'_neg, neg_lt_neg_iff, neg_lt_neg_iff, ← at'_eq_getElem!, ← at'_eq_getElem!,
    ← at'_eq_getElem!, Sig.neg, List.length_map]

/-- Extrema are reported in strictly increasing time order (no duplicates). -/
theorem findPeaks_sorted (x : Sig) : (findPeaks x).Pairwise (· < ·) := peaksFrom_sorted 0 x

/-- Two strict maxima are never adjacent samples. -/
theorem findPeaks_not_adjacent (x : Sig) : (findPeaks x).Pairwise (fun i j => i + 2 ≤ j) :=
  findPeaks_not_adjacent' x

/-- `get_padded_extrema` returns `None` exactly when the (mode-transformed) signal has fewer than
    two strict extrema — whatever the pad width and the refinement flag. -/
theorem paddedExtrema_none_iff (w : Nat) (m : Mode) (parab : Bool) (x : Sig) :
    paddedExtrema w m parab x = .none ↔ (findPeaks (modeSig m x)).length < 2 := by
  rw [paddedExtrema_eq, ← extrema_locs_length m parab x]
  refine ⟨fun h => ?_, fun h => padFrom_short (by omega)⟩
  by_contra hl
  rcases Nat.eq_zero_or_pos w with rfl | hw
  · rw [padFrom_zero (by omega)] at h; cases h
  · rw [padFrom_pos (by omega) hw] at h
    split at h <;> cases h

/-! ## 2. Parabolic refinement -/

/-- For a strict peak the refined location lies strictly within half a sample of the detected one,
    and the refined height is at least the sample's. -/
theorem parabolic_within_half (y0 y1 y2 : Rat) (h0 : y0 < y1) (h2 : y2 < y1) :
    -(1 / 2) < (parabolic y0 y1 y2).1 ∧ (parabolic y0 y1 y2).1 < 1 / 2 ∧ y1 ≤ (parabolic y0 y1 y2).2 := by
  refine ⟨(parabolic_within_half' y0 y1 y2 h0 h2).1, (parabolic_within_half' y0 y1 y2 h0 h2).2, ?_⟩
  have hd := secondDiff_neg h0 h2
  rw [parabolic_eq _ _ _ (ne_of_lt hd)]
  have : (y0 - y2) ^ 2 / (8 * (y0 - 2 * y1 + y2)) ≤ 0 :=
    div_nonpos_of_nonneg_of_nonpos (sq_nonneg _) (by linarith only [hd])
  linarith only [this]

/-- **The refined extremum is the vertex of the parabola through the three samples — at every amplitude.**  For a
    strict peak `y0 < y1 > y2` the offset from the detected sample is `(y0 − y2) / (2 (y0 − 2 y1 + y2))` and the
    height is `y1 − (y0 − y2)² / (8 (y0 − 2 y1 + y2))`; both differ from the sampled extremum exactly when the two
    neighbours differ.  No tolerance enters: an asymmetric strict peak of size `1e-13` is moved like one of size 1
    (C02.parabolic_smul: the offset of `c·(y0, y1, y2)` is that of `(y0, y1, y2)`, the height `c` times).  A guard
    that returns the sampled extremum when the curvature is below a fixed number (seeded C05-5) contradicts this. -/
theorem parabolic_vertex_any_amplitude (y0 y1 y2 : Rat) (h0 : y0 < y1) (h2 : y2 < y1) :
    (parabolic y0 y1 y2).1 = (y0 - y2) / (2 * (y0 - 2 * y1 + y2)) ∧
    (parabolic y0 y1 y2).2 = y1 - (y0 - y2) ^ 2 / (8 * (y0 - 2 * y1 + y2)) ∧
    ((parabolic y0 y1 y2).1 = 0 ↔ y0 = y2) ∧ ((parabolic y0 y1 y2).2 = y1 ↔ y0 = y2) := by
  have hd := ne_of_lt (secondDiff_neg h0 h2)
  have h2d : 2 * (y0 - 2 * y1 + y2) ≠ 0 := mul_ne_zero (by norm_num) hd
  have h8d : 8 * (y0 - 2 * y1 + y2) ≠ 0 := mul_ne_zero (by norm_num) hd
  have h := parabolic_eq y0 y1 y2 hd
  refine ⟨congrArg Prod.fst h, congrArg Prod.snd h, ?_⟩
  -- a quotient with non-zero denominator vanishes exactly when `y0 - y2` does
  rw [h]
  simp only [div_eq_zero_iff, sub_eq_self, h2d, h8d, or_false, pow_eq_zero_iff two_ne_zero, sub_eq_zero, and_self]

-- a peak of size 3e-13 is refined: offset 1/6 of a sample, exactly as for the same shape at size 3
example : (parabolic (1 / 10000000000000) (3 / 10000000000000) (2 / 10000000000000)).1 = 1 / 6 ∧
    (parabolic 1 3 2).1 = 1 / 6 := by decide +kernel

/-- Refined (and unrefined) extrema locations stay strictly ordered, at least one sample apart —
    what the spline constructors require of their knots. -/
theorem parabolic_strictMono (parab : Bool) (y : Sig) :
    (rawExtrema parab y).1.Pairwise (· < ·) ∧ (rawExtrema parab y).1.Pairwise (fun a b => a + 1 ≤ b) :=
  ⟨sep_imp_lt (rawExtrema_locs_sep parab y), rawExtrema_locs_sep parab y⟩

/-- The refined location of a detected strict extremum is within half a sample of the detected index. -/
theorem refined_near_detected (y : Sig) (i : Nat) (hi : i ∈ findPeaks y) :
    (i : Rat) - 1 / 2 < refinedLoc y i ∧ refinedLoc y i < (i : Rat) + 1 / 2 := refinedLoc_near y i hi

/-! ## 3. Padding: strictly ordered, interior untouched, mirrored -/

/-- Odd-reflection padding of strictly increasing locations is strictly increasing (any width). -/
theorem padOdd_strictMono (w : Nat) (l : List Rat) (hl : 2 ≤ l.length) (h : l.Pairwise (· < ·)) :
    (padOdd w l).Pairwise (· < ·) :=
  (padOdd_spec w l hl).1.pairwise reflRel_lt h

/-- The middle block of the padded array is the input, unchanged, with exactly `w` values added on
    either side (also when numpy needs several reflection chunks because `w ≥ len`). -/
theorem padOdd_interior (w : Nat) (l : List Rat) (hl : 2 ≤ l.length) :
    ∃ L Rr, padOdd w l = L ++ l ++ Rr ∧ L.length = w ∧ Rr.length = w :=
  (padOdd_spec w l hl).2

/-- When the width is smaller than the array, padding is a single reflection chunk. -/
theorem padOdd_single_chunk (w : Nat) (l : List Rat) (hw1 : 1 ≤ w) (hw : w < l.length) :
    padOdd w l = padOddOnce w l := by
  have hl : 2 ≤ l.length := Nat.lt_of_le_of_lt hw1 hw
  obtain ⟨w, rfl⟩ : ∃ w', w = w' + 1 := ⟨w - 1, (Nat.sub_add_cancel hw1).symm⟩
  -- the period is the whole array but one, so the first chunk delivers all `w + 1` values
  rw [padOdd_eq_aux _ l hl, padOddAux_succ _ _ _ (Nat.succ_ne_zero w), Nat.div_self (Nat.sub_pos_of_lt hl), Nat.one_mul,
    Nat.min_eq_right (Nat.le_sub_one_of_lt hw), Nat.sub_self, padOddAux_zero]

/-- One reflection chunk, index by index: the `k`-th value to the left of the block is the odd
    reflection `2·l[0] − l[k]` about the first location, the `k`-th value to the right is
    `2·l[last] − l[last−k]`, and the block itself sits unchanged in between. -/
theorem padOddOnce_mirror (c : Nat) (l : List Rat) (hc : c < l.length) :
    (∀ k, 1 ≤ k → k ≤ c → (padOddOnce c l)[c - k]? = some (2 * l[0]! - l[k]!)) ∧
    (∀ i, i < l.length → (padOddOnce c l)[c + i]? = l[i]?) ∧
    (∀ k, 1 ≤ k → k ≤ c →
      (padOddOnce c l)[c + l.length - 1 + k]? = some (2 * l[l.length - 1]! - l[l.length - 1 - k]!)) := by
  refine ⟨fun k h1 h2 => ?_, fun i hi => padOddOnce_mid c l hc i hi, fun k h1 h2 => ?_⟩
  · obtain ⟨j, rfl⟩ : ∃ j, c = j + k := ⟨c - k, (Nat.sub_add_cancel h2).symm⟩
    rw [← at'_eq_getElem!, ← at'_eq_getElem!, Nat.add_sub_cancel]
    exact padOddOnce_left hc h1
  · obtain ⟨j, rfl⟩ : ∃ j, c = j + k := ⟨c - k, (Nat.sub_add_cancel h2).symm⟩
    obtain ⟨m, hm⟩ : ∃ m, l.length = m + k + 1 := ⟨l.length - (k + 1), by omega⟩
    rw [← at'_eq_getElem!, ← at'_eq_getElem!, hm]
    simp only [← Nat.add_assoc, Nat.add_sub_cancel]
    exact padOddOnce_right hm hc h1

/-- Everything `get_padded_extrema` returns: the detected extrema `(l, e)` sit unchanged in the
    middle; the same number `k` of locations is added on both sides, all before the first / after the
    last extremum, by a chain of odd-reflection chunks (`PadChain`, each chunk mirrors about the
    then-current end, see `padOddOnce_mirror`); the result is strictly ordered with spacing ≥ 1;
    added magnitudes replicate the first / last magnitude; one magnitude per location. -/
theorem paddedExtrema_structure (w : Nat) (m : Mode) (parab : Bool) (x : Sig) (locs mags : List Rat)
    (h : paddedExtrema w m parab x = .ok locs mags) :
    ∃ (k : Nat) (L Rr : List Rat) (a z : Rat),
      locs = L ++ (extrema m parab x).1 ++ Rr ∧ L.length = k ∧ Rr.length = k ∧
      (extrema m parab x).2.head? = some a ∧ (extrema m parab x).2.getLast? = some z ∧
      mags = List.replicate k a ++ (extrema m parab x).2 ++ List.replicate k z ∧
      PadChain (extrema m parab x).1 locs ∧
      locs.Pairwise (· < ·) ∧ locs.Pairwise (fun u v => u + 1 ≤ v) ∧
      (∀ u ∈ L, ∀ v ∈ (extrema m parab x).1, u < v) ∧ (∀ v ∈ (extrema m parab x).1, ∀ u ∈ Rr, v < u) ∧
      locs.length = mags.length ∧ (w = 0 → k = 0) := by
  have hsep := paddedExtrema_locs_sep h
  have hlt := sep_imp_lt hsep
  obtain ⟨_, a, z, k, ha, hz, ⟨L, Rr, hl, hL, hR, he, hch⟩, hk0⟩ := paddedExtrema_ok h
  have hp := List.pairwise_append.mp (hl ▸ hlt)
  have hp1 := List.pairwise_append.mp hp.1
  exact ⟨k, L, Rr, a, z, hl, hL, hR, ha, hz, he, hch, hlt, hsep, hp1.2.2,
    fun v hv u hu => hp.2.2 v (List.mem_append_right _ hv) u hu, paddedExtrema_lengths h, hk0⟩

/-- MINIMALITY AND COUNT of the re-padding (pad width ≥ 1).  Let `w' = min w #extrema` be the effective
    width.  The returned locations / magnitudes are the `(r+1)`-fold odd-reflection / edge padding of
    the detected extrema, where `r+1 ≥ 1` is the LEAST number of rounds after which the loop condition
    `max(locs) < len(X) or min(locs) >= 0` is false: it is false after round `r+1` and true after
    every earlier round `1 … r` — so a round more (or less) than needed is impossible.  Exactly
    `(r+1)·w'` values are added on either side of the unchanged block, and `r ≤ len(X)`. -/
theorem paddedExtrema_rounds (w : Nat) (hw : 1 ≤ w) (m : Mode) (parab : Bool) (x : Sig) (locs mags : List Rat)
    (h : paddedExtrema w m parab x = .ok locs mags) :
    ∃ r : Nat,
      locs = (padOdd (min w (extrema m parab x).1.length))^[r + 1] (extrema m parab x).1 ∧
      mags = (padEdge (min w (extrema m parab x).1.length))^[r + 1] (extrema m parab x).2 ∧
      needsMore x.length locs = false ∧
      (∀ j, j < r → needsMore x.length ((padOdd (min w (extrema m parab x).1.length))^[j + 1] (extrema m parab x).1) = true) ∧
      r ≤ x.length ∧
      ∃ L Rr, locs = L ++ (extrema m parab x).1 ++ Rr ∧
        L.length = (r + 1) * min w (extrema m parab x).1.length ∧
        Rr.length = (r + 1) * min w (extrema m parab x).1.length := by
  obtain ⟨hl2, _, hlocs, hmags, -, hpos⟩ := paddedExtrema_iterate h
  obtain ⟨r, rfl, hr, hn, hall⟩ := hpos hw
  obtain ⟨a, z, ha, hz⟩ := head?_getLast?_of_two (extrema_length m parab x ▸ hl2)
  obtain ⟨L, Rr, hs, hL, hR, -, -⟩ := PadInv.iterate (min w (extrema m parab x).1.length) hl2 ha hz (r + 1)
  exact ⟨r, hlocs, hmags, hn, hall, hr, L, Rr, hlocs ▸ hs, hL, hR⟩

/-- The loop condition in geometric terms: it is false exactly when the smallest location is negative
    and the largest is at least `len(X)`; for strictly ordered locations these are the first and the last
    (`Extrema.lmin_of_sorted`, `Extrema.lmax_of_sorted`). -/
theorem needsMore_false_iff_covered (n : Nat) (l : List Rat) :
    needsMore n l = false ↔ lmin l < 0 ∧ (n : Rat) ≤ lmax l := needsMore_eq_false_iff n l

/-- With a pad width ≥ 1 the interpolant gets at least four knots (what `splrep` with k = 3 needs):
    two extrema plus at least one padded value on either side. -/
theorem paddedExtrema_min_knots (w : Nat) (hw : 1 ≤ w) (m : Mode) (parab : Bool) (x : Sig) (locs mags : List Rat)
    (h : paddedExtrema w m parab x = .ok locs mags) : 4 ≤ locs.length ∧ 4 ≤ mags.length := by
  obtain ⟨hl2, _⟩ := paddedExtrema_ok h
  obtain ⟨r, _, _, _, _, _, L, Rr, heq, hL, hR⟩ := paddedExtrema_rounds w hw m parab x locs mags h
  have hlen := paddedExtrema_lengths h
  have hk : 1 ≤ (r + 1) * min w (extrema m parab x).1.length :=
    Nat.mul_pos (Nat.succ_pos r) (Nat.lt_min.mpr ⟨hw, Nat.lt_of_lt_of_le Nat.zero_lt_two hl2⟩)
  rw [← hlen, heq, List.length_append, List.length_append, hL, hR]
  omega

/-- Pad width 0 (inside the property's quantifier): nothing is added — `get_padded_extrema` returns
    the detected extrema themselves (`None` below two extrema). -/
theorem paddedExtrema_pad0 (m : Mode) (parab : Bool) (x : Sig) :
    paddedExtrema 0 m parab x =
      if (extrema m parab x).1.length ≤ 1 then .none else .ok (extrema m parab x).1 (extrema m parab x).2 := by
  rw [paddedExtrema_eq]
  split
  · exact padFrom_short ‹_›
  · exact padFrom_zero (by omega)

/-- With a pad width ≥ 1 the padded locations reach beyond both ends of the signal:
    the first is negative and the last is at least `n`. -/
theorem paddedExtrema_covers (w : Nat) (hw : 1 ≤ w) (m : Mode) (parab : Bool) (x : Sig) (locs mags : List Rat)
    (h : paddedExtrema w m parab x = .ok locs mags) :
    ∃ a z, locs.head? = some a ∧ locs.getLast? = some z ∧ a < 0 ∧ (x.length : Rat) ≤ z :=
  paddedExtrema_covers' hw h

/-- The re-padding `while` loop terminates: `len(X)+1` rounds always suffice, for every signal,
    width, mode and refinement setting (the model's fuel is never exhausted). -/
theorem paddedExtrema_terminates (w : Nat) (m : Mode) (parab : Bool) (x : Sig) :
    paddedExtrema w m parab x ≠ .fuel := by
  rw [paddedExtrema_eq]
  exact padFrom_ne_fuel _ (extrema_locs_sep m parab x) (extrema_locs_bounds m parab x)

/-! ## 4. The evaluation grid is the sample grid -/

/-- If the first location is ≤ 0 and the last is ≥ n, the envelope is evaluated exactly at the
    sample indices 0, 1, …, n−1 — for fractional (refined) locations as well. -/
theorem envGrid_eq_range (locs : List Rat) (n : Nat) (a z : Rat) (ha : locs.head? = some a)
    (hz : locs.getLast? = some z) (h0 : a ≤ 0) (hn : (n : Rat) ≤ z) :
    envGrid locs n = (List.range n).map (fun (k : Nat) => (k : Rat)) :=
  envGrid_eq_range' ha hz h0 hn

/-- The grid of the pinned tree coincides with the sample grid when the first location is an integer… -/
theorem envGridPinned_eq_range_of_integral (locs : List Rat) (n : Nat) (c : Int) (z : Rat)
    (ha : locs.head? = some (c : Rat)) (hz : locs.getLast? = some z) (h0 : c ≤ 0) (hn : (n : Rat) ≤ z) :
    envGridPinned locs n = (List.range n).map (fun (k : Nat) => (k : Rat)) := by
  unfold envGridPinned
  rw [ha, hz]
  exact arange_filter_eq_range c z n h0 hn

/-- …but every point of the pinned grid is `locs[0] + k` for a natural `k`; hence with a fractional first
    location (parabolic refinement) no evaluation point is a sample index (defect D17). -/
theorem envGridPinned_offsets (locs : List Rat) (n : Nat) (a : Rat) (ha : locs.head? = some a) :
    ∀ t ∈ envGridPinned locs n, ∃ k : Nat, t = a + (k : Rat) := by
  intro t ht
  unfold envGridPinned at ht
  rw [ha] at ht
  cases hz : locs.getLast? with
  | none => simp [hz] at ht
  | some z =>
    simp only [hz, arange, List.mem_filter, List.mem_map] at ht
    obtain ⟨⟨k, _, rfl⟩, _⟩ := ht
    exact ⟨k, rfl⟩

/-- Negation witness for the pinned grid: strictly ordered locations covering both edges whose
    pinned evaluation grid is not the sample grid (it misses sample 0). -/
theorem envGridPinned_fractional_witness :
    ∃ (locs : List Rat) (n : Nat) (a z : Rat), locs.Pairwise (· < ·) ∧ locs.head? = some a ∧
      locs.getLast? = some z ∧ a < 0 ∧ (n : Rat) ≤ z ∧
      envGridPinned locs n ≠ (List.range n).map (fun (k : Nat) => (k : Rat)) := by
  refine ⟨[-(1 / 2), 5 / 2], 2, -(1 / 2), 5 / 2, ?_, rfl, rfl, by decide +kernel, by decide +kernel, by decide +kernel⟩
  simp only [List.pairwise_cons, List.mem_singleton, forall_eq, List.not_mem_nil, false_imp_iff,
    implies_true, List.Pairwise.nil, and_true]
  decide +kernel

/-! ## 5. The envelope -/

/-- Every envelope has one value per input sample: with a pad width ≥ 1 `interp_envelope` never
    raises its length error (and the model never runs out of fuel). -/
theorem interpEnvelope_never_raises (I : Interp) (em : EMode) (w : Nat) (hw : 1 ≤ w) (parab : Bool) (x : Sig) :
    interpEnvelope I em w parab x ≠ .valueError ∧ interpEnvelope I em w parab x ≠ .fuel := by
  unfold interpEnvelope
  cases hp : paddedExtrema w em.toMode parab x with
  | none => simp
  | fuel => exact absurd hp (paddedExtrema_terminates w em.toMode parab x)
  | ok l e =>
    have hg := paddedExtrema_grid hw hp
    simp [hg]

/-- PAD WIDTH 0 IS REJECTED.  Without padding the extrema lie strictly inside the signal, the
    evaluation grid `arange(ceil(locs[0]), locs[-1])` misses sample 0, and `interp_envelope` raises its
    length error ('Envelope length does not match input data') for EVERY input that has an envelope
    at all (≥ 2 extrema of the requested kind), every mode, refinement flag and interpolant; below two
    extrema it returns None as for any other width.  So `pad_width = 0` never yields an envelope: the
    one-value-per-sample clause holds there only in the form "rejected input".  (The real code agrees:
    ValueError; with `splrep` and fewer than 4 extrema scipy raises its own TypeError 'm > k must hold'
    first — a rejection either way, special-cased by the harness.)  This is why every theorem about the
    composed pipeline (`Sift.extEnv`, which maps a raising envelope to "no envelope") carries `1 ≤ w`. -/
theorem interpEnvelope_pad0_raises (I : Interp) (em : EMode) (parab : Bool) (x : Sig) :
    (2 ≤ (findPeaks (modeSig em.toMode x)).length → interpEnvelope I em 0 parab x = .valueError) ∧
    ((findPeaks (modeSig em.toMode x)).length < 2 → interpEnvelope I em 0 parab x = .none) := by
  rw [interpEnvelope_zero, extrema_locs_length]
  constructor
  · intro h; rw [if_neg (by omega)]
  · intro h; rw [if_pos (by omega)]

/-- The envelope value of sample `i` is the interpolant through the padded extrema evaluated at the
    integer time `i` — with or without parabolic refinement, for every interpolant. -/
theorem interpEnvelope_at_sample (I : Interp) (em : EMode) (w : Nat) (hw : 1 ≤ w) (parab : Bool) (x : Sig)
    (env locs mags : List Rat) (h : interpEnvelope I em w parab x = .ok env locs mags) :
    env = (List.range x.length).map (fun (i : Nat) => I.eval locs mags (i : Rat)) ∧
    env.length = x.length ∧ paddedExtrema w em.toMode parab x = .ok locs mags := by
  obtain ⟨hp, henv, hlen⟩ := interpEnvelope_ok I em h
  refine ⟨?_, hlen, hp⟩
  rw [henv, paddedExtrema_grid hw hp, List.map_map]; rfl

/-- `None` is returned exactly when there are fewer than two extrema of the requested kind. -/
theorem interpEnvelope_none_iff (I : Interp) (em : EMode) (w : Nat) (parab : Bool) (x : Sig) :
    interpEnvelope I em w parab x = .none ↔ (findPeaks (modeSig em.toMode x)).length < 2 := by
  rw [← paddedExtrema_none_iff w em.toMode parab x]
  unfold interpEnvelope
  cases hp : paddedExtrema w em.toMode parab x with
  | none => simp
  | fuel => simp
  | ok l e => simp only []; split <;> simp

/-- The upper envelope passes through every unrefined peak: `upper[p] = x[p]`. -/
theorem upper_passes_through_peaks (I : Interp) (hI : I.Interpolates) (w : Nat) (hw : 1 ≤ w) (x : Sig)
    (env locs mags : List Rat) (h : interpEnvelope I .upper w false x = .ok env locs mags)
    (p : Nat) (hp : p ∈ findPeaks x) : env[p]? = some x[p]! := by
  rw [← at'_eq_getElem!]
  exact envelope_passes_through I hI .upper hw h (findPeaks x) (at' x) rfl rfl p hp

/-- The lower envelope passes through every unrefined trough: `lower[t] = x[t]`. -/
theorem lower_passes_through_troughs (I : Interp) (hI : I.Interpolates) (w : Nat) (hw : 1 ≤ w) (x : Sig)
    (env locs mags : List Rat) (h : interpEnvelope I .lower w false x = .ok env locs mags)
    (p : Nat) (hp : p ∈ findTroughs x) : env[p]? = some x[p]! := by
  have hmags : (extrema EMode.lower.toMode false x).2 = (findPeaks (Sig.neg x)).map (at' x) := by
    show Sig.neg ((findPeaks (Sig.neg x)).map (at' (Sig.neg x))) = _
    rw [Sig.neg, List.map_map]
    exact List.map_congr_left fun i _ => by rw [Function.comp, at'_neg, neg_neg]
  rw [← at'_eq_getElem!]
  exact envelope_passes_through I hI .lower hw h (findPeaks (Sig.neg x)) (at' x) rfl hmags p hp

/-- The combined envelope passes through every unrefined peak of `|x|`: `env[p] = |x[p]|`. -/
theorem combined_passes_through_abs_peaks (I : Interp) (hI : I.Interpolates) (w : Nat) (hw : 1 ≤ w) (x : Sig)
    (env locs mags : List Rat) (h : interpEnvelope I .combined w false x = .ok env locs mags)
    (p : Nat) (hp : p ∈ findPeaks (x.map Rat.abs')) : env[p]? = some (Rat.abs' x[p]!) := by
  rw [← at'_eq_getElem!, ← at'_abs]
  exact envelope_passes_through I hI .combined hw h _ _ rfl rfl p hp

/-! ## Non-vacuity: the hypotheses are met on concrete, non-trivial inputs -/

example : knotInterp.Interpolates := by
  intro locs mags i t v hs _ h1 h2
  simp [knotInterp, knotInterp_lookup locs mags i t v hs h1 h2]

example : findPeaks [0, 1, 0, 1, 1, 0, 2, 0] = [1, 6] := by decide +kernel          -- the plateau 1,1 is no peak
example : findTroughs [0, 1, 0, 1, 1, 0, 2, 0] = [2, 5] := by decide +kernel
-- width clipped to the number of extrema (two reflection chunks), edges covered after one round
example : paddedExtrema 5 .peaks false [0, 1, 0, 1, 0] = .ok [-3, -1, 1, 3, 5, 7] [1, 1, 1, 1, 1, 1] := by
  decide +kernel
-- three rounds of the re-padding loop
example : paddedExtrema 1 .peaks false [0, 1, 1, 0, 1, 0, 2, 0] =
    .ok [-2, 0, 2, 4, 6, 8, 10, 12] [1, 1, 1, 1, 2, 2, 2, 2] := by decide +kernel
-- parabolic refinement: fractional locations (the D17 witness signal)
example : paddedExtrema 1 .peaks true [0, 3, 1, 2, 1/2] =
    .ok [-5/2, -7/10, 11/10, 29/10, 47/10, 13/2] [121/40, 121/40, 121/40, 161/80, 161/80, 161/80] := by
  decide +kernel
-- … on which the repaired grid is the sample grid and the pinned grid is not
example : envGrid [-5/2, -7/10, 11/10, 29/10, 47/10, 13/2] 5 = [0, 1, 2, 3, 4] := by decide +kernel
example : envGridPinned [-5/2, -7/10, 11/10, 29/10, 47/10, 13/2] 5 = [1/2, 3/2, 5/2, 7/2, 9/2] := by decide +kernel
-- hypotheses of `interpEnvelope_at_sample` / `upper_passes_through_peaks` hold on a concrete run
example : interpEnvelope knotInterp .upper 2 false [0, 1, 0, 2, 0, 1, 0] =
    .ok [0, 1, 0, 2, 0, 1, 0] [-3, -1, 1, 3, 5, 7, 9] [1, 1, 1, 2, 1, 1, 1] := by decide +kernel
example : interpEnvelope knotInterp .lower 1 true [0, -3, -1, -2, -1/2] =
    .ok [0, 0, 0, 0, 0] [-5/2, -7/10, 11/10, 29/10, 47/10, 13/2] [-121/40, -121/40, -121/40, -161/80, -161/80, -161/80] := by
  decide +kernel
-- the COMBINED envelope is the interpolant's value too where the interpolant undershoots zero: nothing is clipped
-- (seeded C05-6 clipped it at 0; `interpEnvelope_at_sample` holds for every mode and every interpolant)
example : (match interpEnvelope { eval := fun _ _ t => t - 2 } .combined 1 false [0, 1, 0, -2, 0, 1, 0] with
    | .ok env _ _ => some env
    | _ => none) = some [-2, -1, 0, 1, 2, 3, 4] := by decide +kernel
-- pad width 0: the extrema do not span the signal, the implementation raises
example : interpEnvelope knotInterp .upper 0 false [0, 1, 0, 2, 0, 1, 0] = .valueError := by decide +kernel
-- … and `get_padded_extrema` itself returns the bare extrema
example : paddedExtrema 0 .peaks false [0, 1, 0, 2, 0, 1, 0] = .ok [1, 3, 5] [1, 2, 1] := by decide +kernel
-- `paddedExtrema_rounds` on the three-round example above: r = 2, effective width 1, 3·1 values per side;
-- after rounds 1 and 2 the loop condition still holds (round 2 ends exactly at location 0: `min >= 0`)
example : (padOdd 1)^[3] [4, 6] = [-2, 0, 2, 4, 6, 8, 10, 12] ∧ needsMore 8 ((padOdd 1)^[3] [4, 6]) = false ∧
    needsMore 8 ((padOdd 1)^[1] [4, 6]) = true ∧ needsMore 8 ((padOdd 1)^[2] [4, 6]) = true := by decide +kernel

end C05
