/-
  C04 — single-IMF extraction obeys its stopping rule and always terminates.

  All statements are about the executable model `EmdModel.Sift` (`loop`, `run`, `finish`,
  `getNextImfIx`, `getNextImf`), for every envelope oracle `E` (also iteration dependent),
  every energy oracle `D`, every option record and every input signal.  They are stated against the spec
  sequence `iter` (h₀ = x, h_{k+1} = h_k − step·mean(U h_k, L h_k), undefined once an envelope is missing)
  through the predicates `Continues`, `Fires`, `Vanishes`, `Spec` of Proofs/Lemmas/Sift.lean: what the
  loop does on iterate k.

  Termination: `loop` is structurally recursive on the remaining iteration budget, which is
  derived from the configured limit (`budget`), so `getNextImf` is total by construction — there is
  no fuel parameter.

  RANGE.  For `fixed` with `max_iters = 0` the real loop never terminates (`fixed_stop(niters, 0)` is
  never true for niters ≥ 1 and the fixed rule has no limit test) — outside the documented range
  `max_iters > 0`.  The model is total and answers `convergeError` there
  (`fixed_zero_iters_model_convergeError`): a model artefact, not a behaviour of the code, and no
  correspondence case touches it (the driver answers `bad-op`).  Every theorem whose conclusion speaks
  about a run that could be this one carries the range hypothesis
  `hm : o.stop = .fixed → 0 < o.maxIters` (equivalently `0 < budget o`, `budget_pos_iff`): `run_spec`,
  `spec_unique`, `convergeError_iff`, `fixed_never_convergeError`, `flag_false_iff`.  The others assume a
  run that returned (`run … = .stopped/.noExtrema`, `getNextImfIx … = .imf c f`), which already excludes it.
-/
import Proofs.Lemmas.Sift
import Proofs.Lemmas.SiftStop

namespace C04
open Sift

/-- Each sifting iterate is the previous one minus the step-scaled mean of its envelopes
    (the recursion equation of `iter`; its content is `iter_eq_iterate` + `run_spec`). -/
theorem iter_succ (E : Nat → Sig → Env) (s : Rat) (x : Sig) (k : Nat) (h U L : Sig)
    (hk : iter E s k x = some h) (he : E k h = (some U, some L)) :
    iter E s (k + 1) x = some (Sig.sub h (Sig.smul s (Sig.mean2 U L))) :=
  iter_step hk he

/-- The spec sequence is the k-fold application of ONE mean-removal step
    `meanStep E s h = h − s·mean(U h, L h)` (undefined when an envelope is missing) to the input — it
    involves neither the stopping rule nor the iteration limit nor the energy threshold. -/
theorem iter_eq_iterate (E : Sig → Env) (s : Rat) (k : Nat) (x : Sig) :
    iter (fun _ => E) s k x = (fun r : Option Sig => r.bind (meanStep E s))^[k] (some x) := by
  induction k with
  | zero => rfl
  | succ k ih => rw [Function.iterate_succ_apply', ← ih, iter_succ_bind]

/-- Consequently the stopping rule (and the iteration limit) influence the returned IMF only through
    the exit index: two option records with the same step size that stop at the same index return the
    same component. -/
theorem stopped_indep_of_rule (E : Nat → Sig → Env) (o o' : ImfOpts) (hs : o.step = o'.step) (x : Sig) (k : Nat)
    (c c' : Sig) (h : run E o x = .stopped k c) (h' : run E o' x = .stopped k c') : c = c' :=
  fires_unique hs (run_eq_iff.mp h).2.2 (run_eq_iff.mp h').2.2

/-- The loop refines the declarative specification: it leaves
    (a) `stopped k c`: k is the LEAST index at which the rule fires, every earlier iterate had both
        envelopes and did not fire, c = h_k − mean(U h_k, L h_k), and k is within the limit;
    (b) `noExtrema k h`: k is the least index with an undefined envelope, h = h_k, no earlier fire;
    (c) `noConverge`: only if all `budget o` iterates had envelopes and none fired.
    (`hm`: documented range, see the header — for fixed/0 the code does not leave the loop at all.) -/
theorem run_spec (E : Nat → Sig → Env) (o : ImfOpts) (_hm : o.stop = .fixed → 0 < o.maxIters) (x : Sig) :
    Spec E o x (run E o x) :=
  run_eq_iff.mp rfl

/-- …and the specification admits no other outcome (so it characterises the result exactly). -/
theorem spec_unique (E : Nat → Sig → Env) (o : ImfOpts) (_hm : o.stop = .fixed → 0 < o.maxIters) (x : Sig)
    (r : Outcome) (h : Spec E o x r) : r = run E o x :=
  (run_eq_iff.mpr h).symm

/-- The range hypothesis in terms of the iteration budget. -/
theorem budget_pos_iff (o : ImfOpts) : 0 < budget o ↔ (o.stop = .fixed → 0 < o.maxIters) := by
  unfold budget
  split
  · next h => exact ⟨fun hb _ => hb, fun hm => hm h⟩
  · next h => exact ⟨fun _ hf => absurd hf h, fun _ => Nat.succ_pos _⟩

/-- OUTSIDE THE RANGE: fixed rule with `max_iters = 0`.  The model has no iteration to perform and
    answers `convergeError`; the code loops for ever (no limit test for `fixed`, `niters == 0` never
    holds).  This is the one input on which model and code part; it is excluded by hypothesis above. -/
theorem fixed_zero_iters_model_convergeError (E : Nat → Sig → Env) (D : Sig → Sig → Rat) (o : ImfOpts)
    (hf : o.stop = .fixed) (h0 : o.maxIters = 0) (x : Sig) :
    budget o = 0 ∧ run E o x = .noConverge ∧ getNextImfIx E D o x = .convergeError := by
  have hb : budget o = 0 := by simp [budget, hf, h0]
  have hr : run E o x = .noConverge := by unfold run; rw [hb]; rfl
  exact ⟨hb, hr, by unfold getNextImfIx; rw [hr]; rfl⟩

/-- Bounded by the configured limit: whatever is returned was found at an iterate index ≤ max_iters
    (at most max_iters+1 mean-envelope evaluations; exactly index max_iters−1 for `fixed`, see `fixed_count`). -/
theorem exit_within_limit (E : Nat → Sig → Env) (o : ImfOpts) (x : Sig) (k : Nat) (c : Sig)
    (hr : run E o x = .stopped k c ∨ run E o x = .noExtrema k c) : k ≤ o.maxIters := by
  have hk : k < budget o := hr.elim (fun hr => (run_eq_iff.mp hr).1) (fun hr => (run_eq_iff.mp hr).1)
  unfold budget at hk
  split at hk <;> omega

/-- The returned IMF has the FULL envelope mean removed (not `step·mean`), whatever the step size. -/
theorem stopped_full_mean (E : Nat → Sig → Env) (o : ImfOpts) (x : Sig) (k : Nat) (c : Sig)
    (hr : run E o x = .stopped k c) :
    ∃ h U L, iter E o.step k x = some h ∧ E k h = (some U, some L) ∧ c = Sig.sub h (Sig.mean2 U L) := by
  obtain ⟨_, _, h, U, L, h1, h2, _, h4⟩ := run_eq_iff.mp hr
  exact ⟨h, U, L, h1, h2, h4⟩

/-- Fixed count n: the rule fires in iteration n exactly (iterate index n−1), never earlier or later. -/
theorem fixed_count (E : Nat → Sig → Env) (o : ImfOpts) (x : Sig) (k : Nat) (c : Sig)
    (hf : o.stop = .fixed) (hr : run E o x = .stopped k c) : k + 1 = o.maxIters := by
  obtain ⟨_, _, h, U, L, _, _, h3, _⟩ := run_eq_iff.mp hr
  simpa [stopTest, hf] using h3

/-- The fixed rule never ends in the convergence error (documented range max_iters ≥ 1). -/
theorem fixed_never_convergeError (E : Nat → Sig → Env) (o : ImfOpts) (x : Sig)
    (hf : o.stop = .fixed) (hm : 0 < o.maxIters) : run E o x ≠ .noConverge := by
  intro hr
  have hb : budget o = o.maxIters := by rw [budget, hf]
  -- the error says that iterate `max_iters - 1` continued, but the rule fires on it
  obtain ⟨h, U, L, _, _, h3⟩ := run_eq_iff.mp hr (o.maxIters - 1) (by omega)
  rw [hf, Nat.sub_add_cancel hm] at h3
  simp [stopTest] at h3

/-- The convergence error is raised exactly when every iterate within the limit had envelopes and the
    rule fired on none of them (max_iters+1 iterates for sd/rilling: the limit is tested before the
    increment) — the extraction never loops on, and never silently returns an unconverged iterate. -/
theorem convergeError_iff (E : Nat → Sig → Env) (D : Sig → Sig → Rat) (o : ImfOpts)
    (_hm : o.stop = .fixed → 0 < o.maxIters) (x : Sig) :
    getNextImfIx E D o x = .convergeError ↔ ∀ j, j < budget o → Continues E o x j := by
  -- `finish` turns exactly the outcome `noConverge` into the error
  change _ ↔ Spec E o x .noConverge
  rw [← run_eq_iff, getNextImfIx]
  cases run E o x <;> simp [finish]

/-- Every returned component is accounted for: it is the first fired iterate with its full mean
    removed, or the first iterate without envelopes. -/
theorem result_cases (E : Nat → Sig → Env) (D : Sig → Sig → Rat) (o : ImfOpts) (x c : Sig) (f : Bool)
    (h : getNextImfIx E D o x = .imf c f) :
    ∃ k, k < budget o ∧ (∀ j, j < k → Continues E o x j) ∧ (Fires E o x k c ∨ Vanishes E o x k c) :=
  let ⟨k, hb, hc, hk⟩ := imf_inv h
  ⟨k, hb, hc, hk.imp And.left And.left⟩

/-- Without an energy threshold the continue flag is cleared exactly when the input itself has an
    undefined envelope, and then the input is returned unmodified. -/
theorem flag_false_iff (E : Nat → Sig → Env) (D : Sig → Sig → Rat) (o : ImfOpts) (x c : Sig)
    (he : o.energyThresh = none) (hb : 0 < budget o) :
    getNextImfIx E D o x = .imf c false ↔ (c = x ∧ ((E 0 x).1 = none ∨ (E 0 x).2 = none)) := by
  constructor
  · exact flag_false_unmodified he
  · rintro ⟨rfl, hn⟩
    rw [getNextImfIx, (run_eq_iff (r := .noExtrema 0 c)).mpr ⟨hb, fun j hj => absurd hj (Nat.not_lt_zero j), rfl, hn⟩]
    simp [finish, energyFlag, he]

/-- A component that differs from the input is never flagged as the final residual (no energy
    threshold): extrema vanishing after k ≥ 1 mean removals leaves the flag set. -/
theorem flag_true_of_modified (E : Nat → Sig → Env) (D : Sig → Sig → Rat) (o : ImfOpts) (x c : Sig) (f : Bool)
    (he : o.energyThresh = none) (h : getNextImfIx E D o x = .imf c f) (hne : c ≠ x) : f = true := by
  cases f with
  | true => rfl
  | false => exact absurd (flag_false_unmodified he h).1 hne

/-- Energy threshold: the flag is the loop's flag AND NOT (energy difference of input vs. residual
    above the threshold); without a threshold it is the loop's flag.  (Definitional — the statements
    with content are `energyFlag_false_iff` and `flag_iff_energy` below.) -/
theorem energy_flag (D : Sig → Sig → Rat) (o : ImfOpts) (x c : Sig) (f : Bool) :
    energyFlag D o x c f =
      match o.energyThresh with
      | none => f
      | some t => f && !(decide (t < D x (Sig.sub x c))) := by
  unfold energyFlag; rfl

/-- With an energy threshold the flag can only be cleared in addition, never set. -/
theorem energy_flag_le (D : Sig → Sig → Rat) (o : ImfOpts) (x c : Sig) (f : Bool)
    (h : energyFlag D o x c f = true) : f = true := by
  cases f with
  | true => rfl
  | false => rw [energyFlag_false_iff'.mpr (.inl rfl)] at h; cases h

/-! ### The stopping rules against their documented formulas

The model writes every float comparison `a/b < t` cross-multiplied (`a < t·b`), which also reproduces
numpy's inf/nan outcomes for `b = 0`.  These theorems tie the cross-multiplied tests to the documented
ratios. -/

/-- `sd_stop`: fires iff `Σ(h−x1)² < sd·Σh²`; when `Σh² ≠ 0` iff the documented ratio
    `Σ(h−x1)²/Σh² < sd`; when `Σh² = 0` never (numpy: 0/0 = nan, x/0 = inf, both `< sd` False). -/
theorem sdStop_iff (thr : Rat) (h x1 : Sig) :
    (sdStop thr h x1 = true ↔ Sig.sumSq (Sig.sub h x1) < thr * Sig.sumSq h) ∧
    (Sig.sumSq h ≠ 0 → (sdStop thr h x1 = true ↔ Sig.sumSq (Sig.sub h x1) / Sig.sumSq h < thr)) ∧
    (Sig.sumSq h = 0 → sdStop thr h x1 = false) := by
  have h1 : sdStop thr h x1 = true ↔ Sig.sumSq (Sig.sub h x1) < thr * Sig.sumSq h := by simp [sdStop]
  refine ⟨h1, fun hne => ?_, fun h0 => ?_⟩
  · have hpos : 0 < Sig.sumSq h := lt_of_le_of_ne (sumSq_nonneg h) (Ne.symm hne)
    rw [h1, div_lt_iff₀ hpos]
  · have := sumSq_nonneg (Sig.sub h x1)
    simp only [sdStop, h0, mul_zero, decide_eq_false_iff_not, not_lt]
    exact this

/-- One sample of the Rilling metric, `abs(avg_env)/amp > sd` with `avg_env = (u+l)/2`,
    `amp = abs(u−l)/2`: for `amp ≠ 0` the model's test `RillingExceeds` IS the documented ratio test;
    for `amp = 0` (envelopes touch) it holds iff `avg_env ≠ 0` (numpy: x/0 = inf > sd, 0/0 = nan > sd False). -/
theorem rillingExceeds_iff_ratio (sd u l : Rat) :
    (u ≠ l → (RillingExceeds sd u l ↔ sd < Rat.abs' ((u + l) / 2) / (Rat.abs' (u - l) / 2))) ∧
    (u = l → (RillingExceeds sd u l ↔ u ≠ 0)) := by
  unfold RillingExceeds
  constructor
  · intro hne
    have hpos : 0 < Rat.abs' (u - l) / 2 := by
      rw [Sig.abs'_eq_abs]; exact half_pos (abs_pos.mpr (sub_ne_zero.mpr hne))
    rw [lt_div_iff₀ hpos]
  · rintro rfl
    rw [Sig.abs'_eq_abs, Sig.abs'_eq_abs, sub_self, abs_zero, zero_div, mul_zero, add_self_div_two]
    exact abs_pos

/-- `rilling_stop(upper, lower, sd1, sd2, tol)` with the code's exact comparisons
    (`mean(eval > sd1) > tol` and `any(eval > sd2)` both False): it fires iff the NUMBER of samples whose
    metric exceeds `sd1` is at most `tol·N` and no sample exceeds `sd2` (samples = pairs of the two
    envelopes; N = 0 fires, as numpy's nan > tol is False). -/
theorem rillingStop_iff (sd1 sd2 tol : Rat) (U L : Sig) :
    rillingStop sd1 sd2 tol U L = true ↔
      (((List.zip U L).countP (fun p => decide (RillingExceeds sd1 p.1 p.2)) : Nat) : Rat)
          ≤ tol * ((List.zip U L).length : Rat) ∧
      ∀ p ∈ List.zip U L, ¬ RillingExceeds sd2 p.1 p.2 := by
  unfold rillingStop
  simp only [rillingBig_eq, List.count_eq_countP, List.countP_map, List.length_map, List.any_map, Bool.not_eq_true',
    Bool.or_eq_false_iff, decide_eq_false_iff_not, not_lt, List.any_eq_false, Function.comp_def, beq_true, id_eq,
    decide_eq_true_eq]

/-- …in the documented form for a non-empty envelope: the FRACTION of samples exceeding `sd1` is ≤ `tol`. -/
theorem rillingStop_iff_fraction (sd1 sd2 tol : Rat) (U L : Sig) (hne : List.zip U L ≠ []) :
    rillingStop sd1 sd2 tol U L = true ↔
      (((List.zip U L).countP (fun p => decide (RillingExceeds sd1 p.1 p.2)) : Nat) : Rat)
          / ((List.zip U L).length : Rat) ≤ tol ∧
      ∀ p ∈ List.zip U L, ¬ RillingExceeds sd2 p.1 p.2 := by
  have hpos : (0 : Rat) < ((List.zip U L).length : Rat) := by
    have : 0 < (List.zip U L).length := List.length_pos_iff.mpr hne
    exact_mod_cast this
  rw [rillingStop_iff, div_le_iff₀ hpos]

/-- `fixed_stop(niters, max_iters)`: fires iff the (1-based) iteration number equals `max_iters`;
    in particular never when `max_iters = 0` (iteration numbers start at 1). -/
theorem fixedStop_iff (niters maxIters : Nat) (h x1 U L : Sig) :
    (stopTest .fixed niters maxIters h x1 U L = true ↔ niters = maxIters) ∧
    (maxIters = 0 → stopTest .fixed (niters + 1) maxIters h x1 U L = false) := by
  constructor
  · simp [stopTest]
  · rintro rfl; simp [stopTest]

/-- The rule evaluated in the loop is one of these three (dispatch on `stop_method`). -/
theorem stopTest_dispatch (niters maxIters : Nat) (h x1 U L : Sig) :
    (∀ thr, stopTest (.sd thr) niters maxIters h x1 U L = sdStop thr h x1) ∧
    (∀ a b t, stopTest (.rilling a b t) niters maxIters h x1 U L = rillingStop a b t U L) :=
  ⟨fun _ => rfl, fun _ _ _ => rfl⟩

/-! ### The continue flag with an energy threshold -/

/-- The energy stage clears the flag exactly when it was already cleared or the threshold is set and
    the energy difference exceeds it (`_energy_difference(X, X − imf) > energy_thresh`, strict). -/
theorem energyFlag_false_iff (D : Sig → Sig → Rat) (o : ImfOpts) (x c : Sig) (f : Bool) :
    energyFlag D o x c f = false ↔ f = false ∨ ∃ t, o.energyThresh = some t ∧ t < D x (Sig.sub x c) :=
  energyFlag_false_iff'

/-- THE CONTINUE FLAG, every option record: of a returned `(c, f)` the flag is cleared exactly when
    the input itself has an undefined envelope (then `c = x`, unmodified) OR the energy threshold is
    set and exceeded.  (`flag_false_iff` is the `energyThresh = none` instance.) -/
theorem flag_iff_energy (E : Nat → Sig → Env) (D : Sig → Sig → Rat) (o : ImfOpts) (x c : Sig) (f : Bool)
    (h : getNextImfIx E D o x = .imf c f) :
    f = false ↔ (c = x ∧ ((E 0 x).1 = none ∨ (E 0 x).2 = none)) ∨
      ∃ t, o.energyThresh = some t ∧ t < D x (Sig.sub x c) :=
  flag_iff_energy' h

/-- The returned component has the length of the input (envelopes having the length of their signal). -/
theorem result_length (E : Nat → Sig → Env) (hE : EnvLen E) (D : Sig → Sig → Rat) (o : ImfOpts)
    (x c : Sig) (f : Bool) (h : getNextImfIx E D o x = .imf c f) : c.length = x.length :=
  imf_length hE h

/-- `get_next_imf` proper (iteration-independent envelope oracle) is the instance `fun _ => E`:
    every theorem above applies to it. -/
theorem getNextImf_eq (E : Sig → Env) (D : Sig → Sig → Rat) (o : ImfOpts) (x : Sig) :
    getNextImf E D o x = getNextImfIx (fun _ => E) D o x := rfl

/-! ### Non-vacuity: concrete runs through every exit (integer-valued rationals, table envelopes). -/

/-- `U = h`, `L = 0` while the first sample is non-zero: a mean removal with step `s` scales the iterate by `1 − s/2` -/
def toyE : Nat → Sig → Env := fun _ h =>
  match h with
  | a :: _ => if a = 0 then (none, none) else (some h, some (h.map fun _ => 0))
  | [] => (none, none)

def toyO (r : StopRule) (m : Nat) : ImfOpts := { stop := r, step := 1, maxIters := m, energyThresh := none }

-- fixed, n = 3: three iterations, exit index 2, the returned value is h₂ − mean = 4·(1/2)^3
example : run toyE (toyO .fixed 3) [4, 8] = .stopped 2 [1/2, 1] := by decide +kernel
example : iter toyE 1 2 [4, 8] = some [1, 2] := by decide +kernel
-- step 1/2: iterates shrink by 3/4, but the returned component still has the FULL mean removed
example : run toyE { stop := .fixed, step := 1/2, maxIters := 2, energyThresh := none } [4, 8] = .stopped 1 [3/2, 3] := by
  decide +kernel
-- sd rule: threshold 1/2 > metric 1/4 fires at once
example : run toyE (toyO (.sd (1/2)) 5) [4, 8] = .stopped 0 [2, 4] := by decide +kernel
-- input without envelopes: returned unmodified, flag cleared
example : getNextImfIx toyE (fun _ _ => 0) (toyO (.sd (1/10)) 5) [0, 3] = .imf [0, 3] false := by decide +kernel
-- envelopes vanish after one mean removal ([2,_] → [1,_] → … never 0 here, so use a table): flag stays set
def toyE2 : Nat → Sig → Env := fun k h => if k = 0 then (some h, some h) else (none, none)
example : getNextImfIx toyE2 (fun _ _ => 0) (toyO .fixed 3) [4, 8] = .imf [0, 0] true := by decide +kernel
-- premises of `flag_false_iff` / `fixed_never_convergeError` are satisfiable
example : 0 < budget (toyO (.sd (1/10)) 5) := by decide +kernel
example : (toyO .fixed 3).stop = .fixed ∧ 0 < (toyO .fixed 3).maxIters := by decide +kernel
-- convergence error: sd threshold 0 never fires (metric < 0 impossible); limit 1 ⇒ 2 iterations, then the error
example : getNextImfIx toyE (fun _ _ => 0) (toyO (.sd 0) 1) [4, 8] = .convergeError := by decide +kernel
-- energy threshold clears the flag of a regular stop
example : getNextImfIx toyE (fun _ _ => 60) { stop := .sd (1/2), step := 1, maxIters := 5, energyThresh := some 50 } [4, 8]
    = .imf [2, 4] false := by decide +kernel
-- outside the range: fixed rule, max_iters = 0 — the model says convergeError (the code would loop for ever)
example : getNextImfIx toyE (fun _ _ => 0) (toyO .fixed 0) [4, 8] = .convergeError := by decide +kernel
example : ¬ ((toyO .fixed 0).stop = .fixed → 0 < (toyO .fixed 0).maxIters) := by decide +kernel
-- Rilling rule on three samples with metrics |avg|/amp = 0, 1/3, 1 and sd1 = 1/4 (two samples exceed it)
example : rillingStop (1/4) 2 (2/3) [1, 2, 1] [-1, -1, 0] = true := by decide +kernel      -- 2 ≤ tol·3 = 2, none exceeds sd2 = 2
example : rillingStop (1/4) (1/2) (2/3) [1, 2, 1] [-1, -1, 0] = false := by decide +kernel  -- the third sample exceeds sd2 = 1/2
example : rillingStop (1/4) 2 (1/2) [1, 2, 1] [-1, -1, 0] = false := by decide +kernel      -- 2 > tol·3 = 3/2
-- the iterates as an iteration of the mean-removal step
example : (fun r : Option Sig => r.bind (meanStep (toyE 0) 1))^[2] (some [4, 8]) = some [1, 2] := by decide +kernel
example : EnvLen toyE := by
  intro k h U L he
  unfold toyE at he
  split at he
  · split at he
    · cases he
    · cases he; simp
  · cases he

end C04
