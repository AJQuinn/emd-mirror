/-
  C07 — masked sift applies documented masks, removes them, is schedule independent.
  Property theorems only (helper lemmas: Proofs/Lemmas/{EnsemblePool,MaskSig,Mask,EquivarianceMask,ComposeMask,ComposeGni}.lean).
  All statements are about the executable model `EmdModel.Mask` (+ the pool of `EmdModel.Ensemble`),
  for every extractor `X`, every mask table, every signal, every number of phases / workers and
  every schedule.
-/
import Proofs.Lemmas.Mask
import Proofs.Lemmas.EquivarianceMask
import Proofs.Lemmas.ComposeMask
import Proofs.Lemmas.ComposeGni

namespace C07
open Pool Mask

/-- `Pool.starmap` of a pure job is `map`, for every execution order and every assignment of the jobs
    to `p` workers: the result does not depend on `nprocesses` or on what the OS scheduler does. -/
theorem pool_map_schedule_indep {α β : Type} (σ : Schedule) (p : Nat) (f : α → β) (args : List α)
    (hσ : σ.Valid args.length p) : runPool σ f args = args.map f :=
  runPool_eq_map rfl hσ

/-- The masked IMF is the mean over the phases of (extraction of signal-plus-mask, minus that same mask). -/
theorem getNextImfMask_spec (X : Sig → Sig × Bool) (mask : Nat → Sig) (p : Nat) (x : Sig) :
    (getNextImfMask X mask p x).1 =
      Ensemble.meanOver x.length ((List.range p).map fun i => Sig.sub (X (Sig.add x (mask i))).1 (mask i)) := by
  rw [getNextImfMask_eq]; rfl

/-- … sample by sample: `imf[t] = (Σ_{i<p} (X(x+m_i)[t] − m_i[t])) / p`
    (extractor and masks of the signal's length). -/
theorem getNextImfMask_spec_pointwise (X : Sig → Sig × Bool) (mask : Nat → Sig) (p : Nat) (x : Sig)
    (hX : ∀ y, (X y).1.length = y.length) (hm : ∀ i, i < p → (mask i).length = x.length)
    (t : Nat) (ht : t < x.length) :
    Sig.sval (getNextImfMask X mask p x).1 t =
      ((List.range p).map fun i => Sig.sval (X (Sig.add x (mask i))).1 t - Sig.sval (mask i) t).sum / (p : Rat) := by
  have hlen : ∀ i ∈ List.range p, (mask i).length = x.length := fun i hi => hm i (List.mem_range.mp hi)
  rw [getNextImfMask_spec, Ensemble.sval_meanOver_map x.length t _ _ ht fun i hi => by simp [hX, hlen i hi],
    List.length_range]
  refine congrArg (·.sum / (p : Rat)) (List.map_congr_left fun i hi => ?_)
  exact Sig.sval_sub _ _ t (by rw [hX, Sig.length_add, hlen i hi, Nat.min_self]; exact ht) (by rw [hlen i hi]; exact ht)

/-- The continue flag is the disjunction of the extractions' flags. -/
theorem getNextImfMask_flag (X : Sig → Sig × Bool) (mask : Nat → Sig) (p : Nat) (x : Sig) :
    (getNextImfMask X mask p x).2 = (List.range p).any fun i => (X (Sig.add x (mask i))).2 := by
  rw [getNextImfMask_eq]

/-- `get_next_imf_mask` gives the same IMF and flag on any number of workers under any schedule. -/
theorem getNextImfMask_schedule_indep (σ : Schedule) (nproc : Nat) (X : Sig → Sig × Bool) (mask : Nat → Sig)
    (p : Nat) (x : Sig) (hσ : σ.Valid p nproc) :
    getNextImfMaskPool σ X mask p x = getNextImfMask X mask p x := by
  rw [getNextImfMaskPool_eq hσ, getNextImfMask_eq]

/-- A zero-amplitude mask reduces to the unmasked extraction (IMF and flag), for any `nphases ≥ 1`
    (unit masks and the extracted IMF of the signal's length). -/
theorem getNextImfMask_zero_amp (X : Sig → Sig × Bool) (unit : Nat → Sig) (p : Nat) (x : Sig) (hp : 0 < p)
    (hu : ∀ i, i < p → (unit i).length = x.length) (hX : (X x).1.length = x.length) :
    getNextImfMask X (fun i => Sig.smul 0 (unit i)) p x = X x :=
  getNextImfMask_zero_masks X _ p x hp (fun i hi => by rw [Sig.zero_smul, hu i hi]) hX

/-! ### the documented waveform: equally spaced phases of a sinusoid of the mask frequency

  `Mask.waveMask cosTurn n z amp p i` is the i-th mask of `get_next_imf_mask(X, z, amp, nphases = p)` on `n` samples.
  The only oracle is `cosTurn x = cos(2π·x)` (the harness supplies its values on the points the run needs); the
  phase grid `i/p` of a turn, the argument `z·t + i/p` and the amplitude factor are definitions of the model. -/

/-- Equally spaced phases: phase 0 is 0, consecutive phases are `1/p` of a turn (`2π/p`) apart, and the `p`
    phases lie in `[0, 1)` turn — `linspace(0, 2π, p+1)[:p]`. -/
theorem mask_phases_equally_spaced (p : Nat) (hp : 0 < p) :
    maskPhase p 0 = 0 ∧ (∀ i, maskPhase p (i + 1) - maskPhase p i = 1 / (p : Rat)) ∧
    ∀ i, i < p → 0 ≤ maskPhase p i ∧ maskPhase p i < 1 :=
  maskPhase_grid p hp

/-- **The mask waveform.**  Mask `i` at sample `t` is `amp · cos(2π·z·t + 2π·i/p)` = `amp · cosTurn (z·t + i/p)`:
    a sinusoid of frequency `z` cycles per sample, amplitude `amp`, phase `i/p` of a turn; one value per sample. -/
theorem mask_phase_grid (cosTurn : Rat → Rat) (n : Nat) (z amp : Rat) (p i : Nat) :
    waveMask cosTurn n z amp p i
      = (List.range n).map (fun (t : Nat) => amp * cosTurn (z * (t : Rat) + (i : Rat) / (p : Rat))) ∧
    (waveMask cosTurn n z amp p i).length = n ∧
    ∀ t, t < n → Sig.sval (waveMask cosTurn n z amp p i) t = amp * cosTurn (z * (t : Rat) + (i : Rat) / (p : Rat)) :=
  have h : waveMask cosTurn n z amp p i
      = (List.range n).map (fun (t : Nat) => amp * cosTurn (z * (t : Rat) + (i : Rat) / (p : Rat))) := by
    simp [waveMask, unitOf, Sig.smul, maskPhase]
  ⟨h, by rw [h, List.length_map, List.length_range], fun t ht => by rw [h]; simp [Sig.sval, ht]⟩

/-- The masked IMF of `get_next_imf_mask(X, z, amp, nphases = p)`: the mean over the `p` equally spaced phases of
    (extraction of signal plus sinusoidal mask, minus that same mask) — `getNextImfMask_spec` with the waveform. -/
theorem getNextImfMask_wave_spec (X : Sig → Sig × Bool) (cosTurn : Rat → Rat) (z amp : Rat) (p : Nat) (x : Sig) :
    (getNextImfMask X (waveMask cosTurn x.length z amp p) p x).1 =
      Ensemble.meanOver x.length ((List.range p).map fun i =>
        Sig.sub (X (Sig.add x (waveMask cosTurn x.length z amp p i))).1 (waveMask cosTurn x.length z amp p i)) :=
  getNextImfMask_spec X _ p x

/-- For an even number of phases the phase set is closed under the half-turn: mask `i + p/2 (mod p)` is the negated
    mask `i`.  Derived from the single oracle fact `cos(2π(x + 1/2)) = −cos(2πx)` (validated on the cosine table of
    every run); this is the hypothesis `Mask.ShiftClosed` of C02's sign-flip law for the masked sift. -/
theorem mask_shift_closed (cosTurn : Rat → Rat) (hc : ∀ x, cosTurn (x + 1 / 2) = - cosTurn x) (n p : Nat)
    (heven : p % 2 = 0) : ShiftClosed (unitOf cosTurn n) p :=
  unitOf_shiftClosed cosTurn hc n p heven

/-- Frequency ladder: with a first frequency `z` (float, or found by `get_mask_freqs`) and step factor `s`,
    there are exactly `cap` mask frequencies and the k-th one is `z / s^k`; the cap is unchanged. -/
theorem maskFreqs_ladder (z s : Rat) (cap : Nat) :
    (maskFreqs (.first z s) cap).1.length = cap ∧ (maskFreqs (.first z s) cap).2 = cap ∧
    ∀ k, k < cap → (maskFreqs (.first z s) cap).1[k]? = some (z / s ^ k) :=
  ⟨by simp [maskFreqs], rfl, fun k hk => by simp [maskFreqs, hk]⟩

/-- A user list is used as it is, and the cap is lowered to the list length when the list is shorter. -/
theorem maskFreqs_user_list (fs : List Rat) (cap : Nat) :
    (maskFreqs (.list fs) cap).1 = fs ∧ (maskFreqs (.list fs) cap).2 = min cap fs.length := by
  refine ⟨rfl, ?_⟩
  simp only [maskFreqs]
  split <;> omega

/-- Amplitude modes: the reference deviation is 1 (absolute), the deviation of the input (ratio of the
    signal; also ratio of the previous IMF at the first layer), or the deviation of the previous column;
    a scalar amplitude applies to every layer, an array is indexed by the layer. -/
theorem maskAmp_modes (std : Sig → Rat) (x : Sig) (prev : Option Sig) (c : Sig) (a : Rat) (as : List Rat) (k : Nat) :
    sdFor std .abs x prev = 1 ∧ sdFor std .ratioSig x prev = std x ∧
    sdFor std .ratioImf x none = std x ∧ sdFor std .ratioImf x (some c) = std c ∧
    ampAt (.scalar a) k = some a ∧ ampAt (.array as) k = as[k]? := by
  cases prev <;> simp [sdFor, ampAt]

/-- Peeling.  If `mask_sift` returns columns `cols` and frequencies `freqs`, then every column `k` is the
    masked extraction (`getNextImfMask`, the phase-average rule above) of the residual
    `x − Σ_{j<k} cols[j]`, with mask frequency `freqs[k]`, `nphases` phases and amplitude
    `amp_k · sd_k` where `amp_k` is the scalar / k-th array amplitude and `sd_k` follows the amplitude
    mode with the previous column `cols[k−1]` — for every schedule of the worker pools. -/
theorem maskSift_peel (σ : Nat → Schedule) (nproc : Nat) (X : Sig → Sig × Bool) (unit : Rat → Nat → Nat → Sig)
    (std : Sig → Rat) (cfg : Cfg) (src : FreqSrc) (cap : Nat) (x : Sig) (cols : List Sig) (freqs : List Rat)
    (hσ : ∀ k, (σ k).Valid cfg.p nproc)
    (h : maskSift σ X unit std cfg src cap x = .ok (cols, freqs)) :
    0 < cols.length ∧ cols.length ≤ freqs.length ∧ cfg.p ≠ 0 ∧
    ∀ k, k < cols.length → ∃ a f, ampAt cfg.amp k = some a ∧ freqs[k]? = some f ∧
      cols[k]? = some (getNextImfMask X
        (fun i => Sig.smul (a * sdFor std cfg.mode x (cols.take k).getLast?) (unit f cfg.p i)) cfg.p
        (Sig.sub x (Sig.vsum x.length (cols.take k)))).1 := by
  have hpos := ComposeMask.ok_cols_pos h
  obtain ⟨_, _, _, _, hp, _⟩ := ComposeMask.ok_layer h 0 hpos
  refine ⟨hpos, ComposeMask.ok_cols_le_freqs h, hp, fun k hk => ?_⟩
  -- layer `k` as the simulation gives it, its pool replaced by the single worker
  obtain ⟨a, f, ha, hf, _, hc⟩ := ComposeMask.ok_layer h k hk
  rw [getNextImfMask_schedule_indep (σ k) nproc X _ cfg.p _ (hσ k)] at hc
  exact ⟨a, f, ha, hf, hc⟩

/-- Peeling with the documented waveform: run on the unit masks of the waveform, every column `k` of `mask_sift`
    is the masked extraction of the residual with the sinusoidal masks
    `amp_k·sd_k · cos(2π·freqs[k]·t + 2π·i/nphases)`, `i = 0 … nphases−1`. -/
theorem maskSift_peel_wave (σ : Nat → Schedule) (nproc : Nat) (X : Sig → Sig × Bool) (cosTurn : Rat → Rat)
    (std : Sig → Rat) (cfg : Cfg) (src : FreqSrc) (cap : Nat) (x : Sig) (cols : List Sig) (freqs : List Rat)
    (hσ : ∀ k, (σ k).Valid cfg.p nproc)
    (h : maskSift σ X (unitOf cosTurn x.length) std cfg src cap x = .ok (cols, freqs)) :
    ∀ k, k < cols.length → ∃ a f, ampAt cfg.amp k = some a ∧ freqs[k]? = some f ∧
      cols[k]? = some (getNextImfMask X
        (waveMask cosTurn x.length f (a * sdFor std cfg.mode x (cols.take k).getLast?) cfg.p) cfg.p
        (Sig.sub x (Sig.vsum x.length (cols.take k)))).1 :=
  (maskSift_peel σ nproc X (unitOf cosTurn x.length) std cfg src cap x cols freqs hσ h).2.2.2

/-- The returned mask frequencies are the ladder / the user list, i.e. (by `maskSift_peel`) exactly the
    ones the layers were extracted with; and the number of columns respects the (lowered) cap when that is
    positive (with cap 0 the code's test `imf_layer == max_imfs-1` never fires). -/
theorem maskSift_returns_used_freqs (σ : Nat → Schedule) (nproc : Nat) (X : Sig → Sig × Bool)
    (unit : Rat → Nat → Nat → Sig) (std : Sig → Rat) (cfg : Cfg) (src : FreqSrc) (cap : Nat) (x : Sig)
    (cols : List Sig) (freqs : List Rat) (hσ : ∀ k, (σ k).Valid cfg.p nproc)
    (h : maskSift σ X unit std cfg src cap x = .ok (cols, freqs)) :
    freqs = (maskFreqs src cap).1 ∧ (0 < (maskFreqs src cap).2 → cols.length ≤ (maskFreqs src cap).2) := by
  refine ⟨(maskSift_eq_ok h).1, fun hc => ?_⟩
  rw [← ComposeMask.effCap_nfOf] at hc ⊢
  exact ComposeMask.ok_cols_le_effCap h hc

/-- `mask_sift` (columns, frequencies or the error) is the same for any two families of schedules:
    identical for any number of worker processes and any interleaving. -/
theorem maskSift_schedule_indep (σ σ' : Nat → Schedule) (nproc nproc' : Nat) (X : Sig → Sig × Bool)
    (unit : Rat → Nat → Nat → Sig) (std : Sig → Rat) (cfg : Cfg) (src : FreqSrc) (cap : Nat) (x : Sig)
    (hσ : ∀ k, (σ k).Valid cfg.p nproc) (hσ' : ∀ k, (σ' k).Valid cfg.p nproc') :
    maskSift σ X unit std cfg src cap x = maskSift σ' X unit std cfg src cap x := by
  rw [ComposeMask.maskSift_eq hσ, ComposeMask.maskSift_eq hσ']

/-! Non-vacuity: the hypotheses are satisfiable on concrete non-trivial inputs. -/

/-- three jobs on two workers, executed out of order -/
def σex : Schedule := { order := [2, 0, 1], worker := fun j => j % 2 }
example : σex.Valid 3 2 := ⟨by decide +kernel, fun j _ => Nat.mod_lt j (by decide)⟩
example : runPool σex (fun a : Nat => a * a + 1) [3, 4, 5] = [10, 17, 26] := by decide +kernel
example : σex.Valid ([3, 4, 5] : List Nat).length 2 := ⟨by decide +kernel, fun j _ => Nat.mod_lt j (by decide)⟩
-- an extractor and unit masks of the signal's length (hypotheses of the pointwise / zero-amplitude theorems)
example : ∀ y : Sig, ((fun y : Sig => (y, true)) y).1.length = y.length := fun _ => rfl
example : ∀ i, i < 4 → ((fun (_ : Nat) => ([1, -1, 1] : Sig)) i).length = ([5, 6, 7] : Sig).length := fun _ _ => rfl
-- a cosine oracle with the half-turn antisymmetry (`Mask.sqTurn`, a square wave standing in for cos; `Mask.sqTurn_half`):
-- the hypothesis of `mask_shift_closed` is satisfiable
example (n : Nat) : ShiftClosed (unitOf sqTurn n) 4 := mask_shift_closed sqTurn sqTurn_half n 4 rfl
example : waveMask sqTurn 4 (1/4) 3 2 1 = [-3, -3, 3, 3] := by decide +kernel
example : unitOf sqTurn 4 (1/4) 2 0 = [1, 1, -1, -1] ∧ unitOf sqTurn 4 (1/4) 2 1 = [-1, -1, 1, 1] := by decide +kernel
-- the ladder of the docstring example: 0.4, step 3
example : (maskFreqs (.first (2/5) 3) 3).1[2]? = some ((2/5 : Rat) / 3 ^ 2) := (maskFreqs_ladder (2/5) 3 3).2.2 2 (by decide)
example : (maskFreqs (.list [1/4, 1/8]) 5).2 = 2 := by rw [(maskFreqs_user_list _ _).2]; rfl

-- a run of the model that returns (hypothesis of the peel / used-frequencies theorems): 3 phases on the
-- out-of-order schedule, an extractor that clears the flag; any unit masks, deviation oracle and signal
example (unit : Rat → Nat → Nat → Sig) (std : Sig → Rat) (x : Sig) :
    ∃ cols freqs, maskSift (fun _ => σex) (fun y => (y, false)) unit std
      { mode := .ratioImf, amp := .scalar 1, p := 3, thresh := 0 } (.first (2/5) 2) 4 x = .ok (cols, freqs) :=
  ⟨_, _, rfl⟩

/-! ### Cross-model consistency: this model of `mask_sift` and the peeling loop of the Sift model (C03)

  Linked: `Mask.maskSift` / `Mask.maskSiftLoop` (this property: concrete masks, ladder, amplitude modes,
  recursion on the frequency list, `Except`) and `Sift.maskSift` (C03: the generic `peelLoop` with an
  abstract per-layer extraction `M`, fuel, `effCap`).  `ComposeMask.maskM` is the `M` built from the
  Mask model's ingredients (layer k = number of columns so far: amplitude `ampAt k · sdFor …`, frequency
  `freqs[k]`, `cfg.p` phases on the pool schedule `σ k`; `none` where `mask_sift` raises). -/

/-- The two models of `mask_sift` agree: an `.ok (cols, freqs)` of the Mask model
    is a regular exit of the Sift-model loop with the same columns for every fuel ≥ `cols.length`, and
    an error of the Mask model is the `.raised` exit of the Sift-model loop (fuel > number of mask frequencies). -/
theorem maskSift_agrees_with_sift_model (σ : Nat → Schedule) (X : Sig → Sig × Bool)
    (unit : Rat → Nat → Nat → Sig) (std : Sig → Rat) (cfg : Cfg) (src : FreqSrc) (cap : Nat) (x : Sig) :
    (∀ cols freqs, Mask.maskSift σ X unit std cfg src cap x = .ok (cols, freqs) →
      ∀ fuel, cols.length ≤ fuel → ∃ fl cp th,
        Sift.maskSift (ComposeMask.maskM σ X unit std cfg x freqs) cfg.thresh cap (ComposeMask.nfOf src) x fuel
          = (cols, .done fl cp th)) ∧
    (∀ e, Mask.maskSift σ X unit std cfg src cap x = .error e →
      ∀ fuel, (maskFreqs src cap).1.length < fuel → ∃ out,
        Sift.maskSift (ComposeMask.maskM σ X unit std cfg x (maskFreqs src cap).1) cfg.thresh cap
          (ComposeMask.nfOf src) x fuel = (out, .raised)) :=
  ⟨fun _ _ h fuel hf => ComposeMask.maskSift_ok h fuel hf,
   fun _ h fuel hf => ComposeMask.maskSift_error h fuel hf⟩

/-- … as an equivalence: with more fuel than mask frequencies, the Sift-model loop over `maskM` leaves
    regularly with columns `out` iff the Mask model returns `out` (and the ladder / user list). -/
theorem maskSift_iff_sift_model (σ : Nat → Schedule) (X : Sig → Sig × Bool) (unit : Rat → Nat → Nat → Sig)
    (std : Sig → Rat) (cfg : Cfg) (src : FreqSrc) (cap : Nat) (x : Sig) (out : List Sig) (fuel : Nat)
    (hfuel : (maskFreqs src cap).1.length < fuel) :
    (∃ fl cp th, Sift.maskSift (ComposeMask.maskM σ X unit std cfg x (maskFreqs src cap).1) cfg.thresh cap
        (ComposeMask.nfOf src) x fuel = (out, .done fl cp th)) ↔
    Mask.maskSift σ X unit std cfg src cap x = .ok (out, (maskFreqs src cap).1) := by
  constructor
  · intro ⟨fl, cp, th, hs⟩
    -- the last layer of a regular exit had a frequency, so one unit of fuel per frequency covers the run, and on
    -- that fuel the Mask loop is the Sift loop read back
    have hs' : Sift.maskSift (ComposeMask.maskM σ X unit std cfg x (maskFreqs src cap).1) cfg.thresh cap
        (ComposeMask.nfOf src) x (maskFreqs src cap).1.length = (out, .done fl cp th) :=
      Sift.peelLoop_done_fuel (Sift.resid_nil x).symm hs (by simpa using ComposeMask.done_cols_le_freqs hs)
    rw [maskSift_eq_map, ComposeMask.maskSift_eq_readBack _ (fun _ _ => rfl), hs']
    rfl
  · intro hm
    have hle := ComposeMask.ok_cols_le_freqs hm
    exact ComposeMask.maskSift_ok hm fuel (by omega)

/-- C03's cap nesting (`C03.maskSift_cap_prefix`) holds of this model: when both runs return, `mask_sift` capped
    at `k` (`1 ≤ k ≤ K`) returns exactly the first `k` columns of the run capped at `K` — same masks (the ladder of
    the smaller cap is a prefix of the larger one), amplitudes and schedules. -/
theorem maskSift_cap_nested (σ : Nat → Schedule) (X : Sig → Sig × Bool) (unit : Rat → Nat → Nat → Sig)
    (std : Sig → Rat) (cfg : Cfg) (src : FreqSrc) (k K : Nat) (x : Sig) (c1 c2 : List Sig) (f1 f2 : List Rat)
    (hk : 0 < k) (hK : k ≤ K)
    (h1 : Mask.maskSift σ X unit std cfg src k x = .ok (c1, f1))
    (h2 : Mask.maskSift σ X unit std cfg src K x = .ok (c2, f2)) : c1 = c2.take k := by
  obtain ⟨_, _, _, r1⟩ := ComposeMask.maskSift_ok_gen (freqs' := f2) h1
    (fun j hj => by
      obtain ⟨rfl, _⟩ := maskSift_eq_ok h1
      obtain ⟨rfl, _⟩ := maskSift_eq_ok h2
      exact ComposeMask.maskFreqs_nested k K hK j hj)
    (max c1.length c2.length) (Nat.le_max_left _ _)
  obtain ⟨_, _, _, r2⟩ := ComposeMask.maskSift_ok h2
    (max c1.length c2.length) (Nat.le_max_right _ _)
  have := C03.maskSift_cap_prefix (ComposeMask.maskM σ X unit std cfg x f2) cfg.thresh k K (ComposeMask.nfOf src) x
    (max c1.length c2.length) hk hK (ComposeMask.ok_list_nonempty h1)
  rwa [r1, r2] at this

/-- C03's cap theorem (`C03.maskSift_cols_le_cap`) holds of this model, without a schedule hypothesis:
    never more columns than the cap (`cap ≥ 1`), nor than the user supplied frequencies. -/
theorem maskSift_cols_le_cap_sift_model (σ : Nat → Schedule) (X : Sig → Sig × Bool)
    (unit : Rat → Nat → Nat → Sig) (std : Sig → Rat) (cfg : Cfg) (src : FreqSrc) (cap : Nat) (x : Sig)
    (cols : List Sig) (freqs : List Rat) (hc : 0 < cap)
    (h : Mask.maskSift σ X unit std cfg src cap x = .ok (cols, freqs)) :
    cols.length ≤ cap ∧ ∀ fs, src = .list fs → cols.length ≤ fs.length := by
  obtain ⟨_, _, _, r⟩ := ComposeMask.maskSift_ok h cols.length (Nat.le_refl _)
  have := C03.maskSift_cols_le_cap (ComposeMask.maskM σ X unit std cfg x freqs) cfg.thresh cap
    (ComposeMask.nfOf src) x cols.length hc (ComposeMask.ok_list_nonempty h)
  rw [r] at this
  refine ⟨this.1, ?_⟩
  intro fs hs
  subst hs
  exact this.2 fs.length rfl

/-- C03's peeling theorem (`C03.maskSift_col_eq_extract`) read on this model: column `k` is the masked
    extraction `maskM` of layer `k` applied to the input minus the first `k` columns. -/
theorem maskSift_col_eq_extract_sift_model (σ : Nat → Schedule) (X : Sig → Sig × Bool)
    (unit : Rat → Nat → Nat → Sig) (std : Sig → Rat) (cfg : Cfg) (src : FreqSrc) (cap : Nat) (x : Sig)
    (cols : List Sig) (freqs : List Rat)
    (h : Mask.maskSift σ X unit std cfg src cap x = .ok (cols, freqs)) :
    ∀ k, k < cols.length → ∃ c f, cols[k]? = some c ∧
      ComposeMask.maskM σ X unit std cfg x freqs (cols.take k) (Sift.resid x (cols.take k)) = some (c, f) :=
  ComposeMask.ok_col_eq_extract h

-- non-vacuity: a run of the Mask model that returns two columns (cap 2 of a 4-step ladder), and the
-- Sift-model loop over `maskM` on the same data
example : Mask.maskSift (fun _ => σex) (fun y => (y, true)) (fun _ _ _ => [1, -1, 1]) (fun _ => 1)
      { mode := .abs, amp := .scalar 1, p := 3, thresh := 0 } (.first (2/5) 2) 2 [5, 6, 7]
    = .ok ([[5, 6, 7], [0, 0, 0]], [2/5, (2/5 : Rat) / 2 ^ 1]) := ComposeMask.okEq_sound (by decide +kernel)
example : ∃ fl cp th, Sift.maskSift (ComposeMask.maskM (fun _ => σex) (fun y => (y, true)) (fun _ _ _ => [1, -1, 1])
      (fun _ => 1) { mode := .abs, amp := .scalar 1, p := 3, thresh := 0 } [5, 6, 7] [2/5, (2/5 : Rat) / 2 ^ 1])
      0 2 none [5, 6, 7] 2 = ([[5, 6, 7], [0, 0, 0]], .done fl cp th) :=
  (maskSift_agrees_with_sift_model (fun _ => σex) (fun y => (y, true)) (fun _ _ _ => [1, -1, 1]) (fun _ => 1)
    { mode := .abs, amp := .scalar 1, p := 3, thresh := 0 } (.first (2/5) 2) 2 [5, 6, 7]).1 _ _
    (ComposeMask.okEq_sound (by decide +kernel)) 2 (by decide)
-- … and the same ladder capped at 1 returns the first column only (hypotheses of `maskSift_cap_nested`)
example : Mask.maskSift (fun _ => σex) (fun y => (y, true)) (fun _ _ _ => [1, -1, 1]) (fun _ => 1)
      { mode := .abs, amp := .scalar 1, p := 3, thresh := 0 } (.first (2/5) 2) 1 [5, 6, 7]
    = .ok ([[5, 6, 7]], [2/5]) := ComposeMask.okEq_sound (by decide +kernel)

/-! ### Composition: `get_next_imf_mask` over `get_next_imf` of the Sift model (C04) and the Extrema envelopes

  Linked: the abstract extractor `X` of this model is instantiated with `ComposeGni.gniX E D o` =
  `Sift.getNextImf E D o` (envelope oracle `E`, energy oracle `D`, options `o`: stop rule, step, iteration
  limit, energy threshold), and further with `E = Sift.extEnv I w parab` (the envelopes of the Extrema
  model, C05).  `get_next_imf` may raise EMDSiftCovergeError, which propagates out of `get_next_imf_mask`;
  the statements are about calls in which the extractions of the masked signals return (for the fixed-count
  rule that is every call). -/

/-- Phase-average rule for the composed pipeline: if `get_next_imf` returns `(c_i, f_i)` on `x + m_i`,
    the masked IMF is the mean over the phases of `c_i − m_i` and the flag is the disjunction of the `f_i`. -/
theorem getNextImfMask_over_getNextImf_spec (E : Sig → Sift.Env) (D : Sig → Sig → Rat) (o : Sift.ImfOpts)
    (mask : Nat → Sig) (p : Nat) (x : Sig) (cs : Nat → Sig) (fs : Nat → Bool)
    (h : ∀ i, i < p → Sift.getNextImf E D o (Sig.add x (mask i)) = .imf (cs i) (fs i)) :
    getNextImfMask (ComposeGni.gniX E D o) mask p x =
      (Ensemble.meanOver x.length ((List.range p).map fun i => Sig.sub (cs i) (mask i)), (List.range p).any fs) :=
  ComposeGni.getNextImfMask_gni mask p x cs fs h

/-- With the fixed-count stop rule (`max_iters ≥ 1`) no hypothesis is needed: every masked extraction
    returns (C04.fixed_never_convergeError) and the rule above holds. -/
theorem getNextImfMask_over_getNextImf_fixed (E : Sig → Sift.Env) (D : Sig → Sig → Rat) (o : Sift.ImfOpts)
    (hf : o.stop = .fixed) (hm : 0 < o.maxIters) (mask : Nat → Sig) (p : Nat) (x : Sig) :
    ∃ (cs : Nat → Sig) (fs : Nat → Bool),
      (∀ i, Sift.getNextImf E D o (Sig.add x (mask i)) = .imf (cs i) (fs i)) ∧
      getNextImfMask (ComposeGni.gniX E D o) mask p x =
        (Ensemble.meanOver x.length ((List.range p).map fun i => Sig.sub (cs i) (mask i)), (List.range p).any fs) := by
  have hall : ∀ i, Sift.getNextImf E D o (Sig.add x (mask i)) =
      .imf (ComposeGni.gniX E D o (Sig.add x (mask i))).1 (ComposeGni.gniX E D o (Sig.add x (mask i))).2 := by
    intro i
    obtain ⟨c, f, h⟩ := ComposeGni.fixed_total (E := E) (D := D) hf hm (Sig.add x (mask i))
    rw [ComposeGni.gniX_of_imf h]; exact h
  exact ⟨_, _, hall, ComposeGni.getNextImfMask_gni mask p x _ _ (fun i _ => hall i)⟩

/-- Zero-amplitude masks over `get_next_imf`: `get_next_imf_mask` returns exactly what `get_next_imf`
    returns on the unmasked signal (IMF and flag), for any `nphases ≥ 1`, every stop rule and options. -/
theorem getNextImfMask_over_getNextImf_zero_amp (E : Sig → Sift.Env) (hE : Sift.EnvLen (fun _ => E))
    (D : Sig → Sig → Rat) (o : Sift.ImfOpts) (unit : Nat → Sig) (p : Nat) (x : Sig) (hp : 0 < p)
    (hu : ∀ i, i < p → (unit i).length = x.length) (c : Sig) (f : Bool)
    (h : Sift.getNextImf E D o x = .imf c f) :
    getNextImfMask (ComposeGni.gniX E D o) (fun i => Sig.smul 0 (unit i)) p x = (c, f) := by
  have hX : (ComposeGni.gniX E D o x).1.length = x.length := by
    rw [ComposeGni.gniX_of_imf h]
    exact C04.result_length (fun _ => E) hE D o x c f h
  rw [getNextImfMask_zero_amp (ComposeGni.gniX E D o) unit p x hp hu hX, ComposeGni.gniX_of_imf h]

/-- … for the whole chain get_padded_extrema → interp_envelope → get_next_imf → get_next_imf_mask
    (envelopes of the Extrema model, only the interpolant abstract).  Pad width ≥ 1: the range in which
    `Sift.extEnv` represents the code (`interp_envelope` never raises there, C05.interpEnvelope_never_raises;
    at `w = 0` the code rejects every oscillatory input, C05.interpEnvelope_pad0_raises). -/
theorem getNextImfMask_pipeline_zero_amp (I : Extrema.Interp) (w : Nat) (_hw : 1 ≤ w) (parab : Bool)
    (D : Sig → Sig → Rat) (o : Sift.ImfOpts) (unit : Nat → Sig) (p : Nat) (x : Sig) (hp : 0 < p)
    (hu : ∀ i, i < p → (unit i).length = x.length) (c : Sig) (f : Bool)
    (h : Sift.getNextImf (Sift.extEnv I w parab) D o x = .imf c f) :
    getNextImfMask (ComposeGni.gniX (Sift.extEnv I w parab) D o) (fun i => Sig.smul 0 (unit i)) p x = (c, f) :=
  getNextImfMask_over_getNextImf_zero_amp _ (Sift.extEnv_len I w parab) D o unit p x hp hu c f h

/-- The continue flag of the composed pipeline (C07 flag rule + C04 flag rule; no energy threshold, `max_iters ≥ 1`
    under the fixed-count rule): the masked extraction clears the flag exactly when every masked signal `x + m_i`
    already lacks an envelope — i.e. no phase could be sifted at all. -/
theorem getNextImfMask_over_getNextImf_flag (E : Sig → Sift.Env) (D : Sig → Sig → Rat) (o : Sift.ImfOpts)
    (he : o.energyThresh = none) (hb : 0 < Sift.budget o) (mask : Nat → Sig) (p : Nat) (x : Sig)
    (cs : Nat → Sig) (fs : Nat → Bool)
    (h : ∀ i, i < p → Sift.getNextImf E D o (Sig.add x (mask i)) = .imf (cs i) (fs i)) :
    (getNextImfMask (ComposeGni.gniX E D o) mask p x).2 = false ↔
      ∀ i, i < p → ((E (Sig.add x (mask i))).1 = none ∨ (E (Sig.add x (mask i))).2 = none) := by
  rw [ComposeGni.getNextImfMask_gni mask p x cs fs h]
  simp only [List.any_eq_false, List.mem_range, Bool.not_eq_true]
  exact forall₂_congr fun i hi => ComposeGni.flag_false_iff_env he hb (h i hi)

-- non-vacuity: the toy oracle / options of C04 (fixed count 2): the hypotheses of the fixed-rule theorem
example : (C04.toyO .fixed 2).stop = .fixed ∧ 0 < (C04.toyO .fixed 2).maxIters ∧ 0 < Sift.budget (C04.toyO .fixed 2) :=
  ⟨rfl, by decide +kernel, by decide +kernel⟩

/-! ### a mask frequency of 0 is a mask (a constant), not "no mask"; the ratio-of-signal amplitude refers to the input

  Only a zero AMPLITUDE reduces to the unmasked extraction (`getNextImfMask_zero_amp`).  A zero FREQUENCY (an entry of
  a user list such as the docstring's `[.4, .2, .1, .05, .025, 0]`) is the constant `amp · cos(2π i / nphases)`, added
  before and subtracted after the extraction like any other mask; a shortcut to the unmasked extraction for
  `mask_freqs[k] == 0` (seeded C07-6) contradicts `getNextImfMask_zero_freq` (witness below).  `mask_sift` treats
  every frequency alike: `maskSift_peel_wave` holds for every entry of the list, zero included. -/

/-- The masks of frequency 0: mask `i` is the constant `amp · cosTurn (i / nphases)` on every sample; with one phase
    (`nphases = 1`, phase 0) the masked IMF is the extraction of the SHIFTED signal minus the shift,
    `X(x + amp·cos 0) − amp·cos 0` — not `X x`. -/
theorem getNextImfMask_zero_freq (X : Sig → Sig × Bool) (cosTurn : Rat → Rat) (amp : Rat) (p : Nat) (x : Sig)
    (hX : ∀ y, (X y).1.length = y.length) :
    (∀ i, waveMask cosTurn x.length 0 amp p i = List.replicate x.length (amp * cosTurn (maskPhase p i))) ∧
    getNextImfMask X (waveMask cosTurn x.length 0 amp 1) 1 x =
      (Sig.sub (X (Sig.add x (List.replicate x.length (amp * cosTurn 0)))).1 (List.replicate x.length (amp * cosTurn 0)),
       (X (Sig.add x (List.replicate x.length (amp * cosTurn 0)))).2) := by
  have hw : ∀ q i, waveMask cosTurn x.length 0 amp q i = List.replicate x.length (amp * cosTurn (maskPhase q i)) :=
    fun q i => by simp [waveMask, unitOf, Sig.smul, List.map_const']
  refine ⟨hw p, ?_⟩
  have h0 : maskPhase 1 0 = 0 := by simp [maskPhase]
  -- one phase: the mean over the single term is the term
  rw [getNextImfMask_eq, phaseAverage, show List.range 1 = [0] from rfl]
  simp only [List.map_cons, List.map_nil, List.any_cons, List.any_nil, Bool.or_false, hw 1 0, h0]
  rw [show ∀ c : Sig, [c] = List.replicate 1 c from fun _ => rfl,
    Ensemble.meanOver_replicate x.length 1 _ Nat.one_pos (by simp [hX])]

/-- **`ratio_sig`: the amplitude of EVERY mask is the supplied ratio times the deviation of the INPUT signal.**
    If `mask_sift(…, mask_amp_mode='ratio_sig')` returns columns `cols`, then column `k` — for every `k`, not only the
    first — is the masked extraction of the residual with the masks `(a_k · std x) · cos(2π f_k t + 2π i / nphases)`,
    where `a_k` is the scalar / k-th array amplitude AS SUPPLIED and `x` is the input of the call: not the running
    residual, not the previous column, and not an amplitude that earlier layers (or earlier calls) rescaled. -/
theorem maskSift_ratioSig_amplitudes (σ : Nat → Schedule) (nproc : Nat) (X : Sig → Sig × Bool) (cosTurn : Rat → Rat)
    (std : Sig → Rat) (cfg : Cfg) (hm : cfg.mode = .ratioSig) (src : FreqSrc) (cap : Nat) (x : Sig) (cols : List Sig)
    (freqs : List Rat) (hσ : ∀ k, (σ k).Valid cfg.p nproc)
    (h : maskSift σ X (unitOf cosTurn x.length) std cfg src cap x = .ok (cols, freqs)) :
    ∀ k, k < cols.length → ∃ a f, ampAt cfg.amp k = some a ∧ freqs[k]? = some f ∧
      cols[k]? = some (getNextImfMask X (waveMask cosTurn x.length f (a * std x) cfg.p) cfg.p
        (Sig.sub x (Sig.vsum x.length (cols.take k)))).1 := by
  intro k hk
  obtain ⟨a, f, h1, h2, h3⟩ := maskSift_peel_wave σ nproc X cosTurn std cfg src cap x cols freqs hσ h k hk
  refine ⟨a, f, h1, h2, ?_⟩
  rw [h3, hm]
  cases (cols.take k).getLast? <;> rfl

-- witness: zero frequency is NOT the unmasked extraction.  Extractor "square every sample", x = [1], amp = 1,
-- cos ≡ 1: the masked IMF is (1+1)² − 1 = 3, the unmasked one 1² = 1
example : (getNextImfMask (fun y => (y.map fun v => v * v, true)) (waveMask (fun _ => 1) 1 0 1 1) 1 [1]).1 = [3] ∧
    ((fun y : Sig => (y.map fun v => v * v, true)) [1]).1 = [1] := by decide +kernel
example : ∀ y : Sig, ((fun y : Sig => (y.map fun v => v * v, true)) y).1.length = y.length := fun y => by simp

end C07
