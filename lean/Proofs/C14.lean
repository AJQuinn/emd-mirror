/-
  C14 — per-cycle statistics and phase alignment use exactly each cycle's samples.
  Property theorems only (helper lemmas: Proofs/Lemmas/CycleStats*.lean, Maps*.lean; CyclesSlices.lean for the
  default cycles of `phase_align`).
  All statements are about the executable model `EmdModel.CycleStats`.

  Scope notes:
  * `phaseAlign_affine` speaks about a call that returned; WHEN it returns is `phaseAlign_returns_iff`
    (`AlignAccepts`), and `alignCycle_one_sample` shows that a one-sample cycle is accepted (all-NaN column).
  * Only `interp_kind='linear'`, `mode='cycle'` are modelled; the other interpolation kinds and the
    "within interpolation error" clause are instance checks (stream phase_align of c14.py).
  * bin_by_phase: the MEANS (unweighted and weighted) are modelled and proved.  Its variance output
    with `weights=`, `variance_metric='std'/'sem'` are not modelled; three defects of the real code there
    ('sem' always raises ValueError; weights with 1-D x raise IndexError; weighted variance is
    avg(x − avg²)) are outside the property (it promises the bin means), written down in c14.py TRUSTED
    and recorded on every run by stream `bin_by_phase_outside` as observed-not-claimed.
-/
import Proofs.Lemmas.CycleStatsInterp
import Proofs.Lemmas.MapsIndex
import Proofs.Lemmas.CyclesSlices
import Proofs.Lemmas.MapsCycles

namespace C14
open Maps CycleStats

/-! ## per-cycle statistics -/

/-- For EVERY reducing function `f` (any result type) and EVERY labelling (gaps of -1 anywhere,
    labels in any arrangement): there is one entry per label 0..max, and entry k is `f` applied to
    precisely the values whose label is k, in recording order. -/
theorem cycleStat_spec {β : Type} (f : List Rat → β) (vals : List Rat) (cv : List Int) :
    (cycleStat f vals cv).length = nLabels cv ∧
    ∀ k, k < nLabels cv → (cycleStat f vals cv)[k]? = some (f (valuesWithLabel vals cv k)) := by
  rw [cycleStat_eq]
  refine ⟨by simp, fun k hk => ?_⟩
  simp [List.getElem?_map, List.getElem?_range hk]

/-- the samples handed to `f` for cycle k are exactly the samples labelled k: a value is passed
    on iff it sits at a position whose label is k (position-wise formulation) -/
theorem cycle_samples_exact (cv : List Int) (k i : Nat) :
    i ∈ mapCycleToSamples cv k ↔ cv[i]? = some (k : Int) := mem_whereEq

/-- the public entry point with a reducing function that never raises, `out='cycles'` -/
theorem getCycleStat_cycles (f : List Rat → Rat) (vals : List Rat) (cv : List Int)
    (hne : cv ≠ []) (hlen : cv.length = vals.length) :
    getCycleStat (fun l => .ok (some (f l))) vals cv false =
      .ok ((List.range (nLabels cv)).map fun k => some (f (valuesWithLabel vals cv k))) :=
  getCycleStat_total hne hlen false

/-- projection of any per-cycle vector back to samples: every sample of cycle k carries entry k
    (so the result is constant on each cycle), every unlabelled sample is missing (NaN) -/
theorem project_spec (stats : List Rat) (cv : List Int) (hlen : stats.length = nLabels cv)
    (i : Nat) (l : Int) (hl : cv[i]? = some l) :
    (projectCyclesToSamples (stats.map some) cv).length = cv.length ∧
    (projectCyclesToSamples (stats.map some) cv)[i]? =
      some (if 0 ≤ l then some stats[l.toNat]! else none) := by
  refine ⟨projectLoop_length, ?_⟩
  rw [show projectCyclesToSamples (stats.map some) cv = projectLoop (whereEq cv) cv.length (stats.map some) from rfl,
    projectLoop_spec hl, valAt, label?]
  by_cases h0 : 0 ≤ l
  · have hk : l.toNat < stats.length := hlen ▸ toNat_lt_nLabels h0 (List.mem_of_getElem? hl)
    rw [if_pos (by omega), if_pos h0]
    simp [hk]
  · rw [if_neg (by omega), if_neg h0]; rfl

/-- the public entry point with `out='samples'`: the statistic of its own cycle on every labelled
    sample, missing elsewhere -/
theorem getCycleStat_samples (f : List Rat → Rat) (vals : List Rat) (cv : List Int)
    (hne : cv ≠ []) (hlen : cv.length = vals.length) :
    ∃ out, getCycleStat (fun l => .ok (some (f l))) vals cv true = .ok out ∧ out.length = cv.length ∧
      ∀ (i : Nat) (l : Int), cv[i]? = some l →
        out[i]? = some (if 0 ≤ l then some (f (valuesWithLabel vals cv l.toNat)) else none) := by
  let stats := (List.range (nLabels cv)).map fun k => f (valuesWithLabel vals cv k)
  have hstats : stats.length = nLabels cv := by simp [stats]
  refine ⟨projectCyclesToSamples (stats.map some) cv, ?_, projectLoop_length, ?_⟩
  · rw [getCycleStat_total hne hlen true]
    simp [stats, List.map_map, Function.comp_def]
  · intro i l hl
    rw [(project_spec stats cv hstats i l hl).2]
    by_cases h0 : 0 ≤ l
    · simp [h0, stats, getElem!_pos, toNat_lt_nLabels h0 (List.mem_of_getElem? hl)]
    · simp [h0]

/-! ## phase alignment -/

/-- scipy's linear interpolant with linear extrapolation reproduces any quantity that is affine
    in the abscissa EXACTLY at every evaluation point — inside, between and beyond the samples —
    whatever the number (≥ 2) and spacing of the samples -/
theorem linInterp_affine (pts : List (Rat × Rat)) (a b t : Rat)
    (hs : pts.Pairwise fun p q => p.1 < q.1) (hn : 2 ≤ pts.length)
    (hy : ∀ p ∈ pts, p.2 = a * p.1 + b) : linInterp pts t = some (a * t + b) := by
  unfold linInterp
  rw [if_neg (by omega)]
  simp only []
  generalize hidx : min (max (searchLeft pts t) 1) (pts.length - 1) = idx
  have h2 : idx < pts.length := by omega
  have h3 : idx - 1 < pts.length := by omega
  rw [List.getElem?_eq_getElem h3, List.getElem?_eq_getElem h2]
  simp only []
  have hne : pts[idx].1 ≠ pts[idx - 1].1 :=
    Rat.ne_of_gt (List.pairwise_iff_getElem.mp hs (idx - 1) idx h3 h2 (by omega))
  rw [if_neg hne, hy _ (List.getElem_mem h3), hy _ (List.getElem_mem h2), line_through hne]

/-- one column of phase_align: if within the cycle the phase is strictly increasing (≥ 2 samples)
    and the observed quantity is `a·phase + b`, the aligned profile is `a·bins + b` exactly,
    whatever the cycle's duration -/
theorem alignCycle_affine (ip x : List Rat) (inds : List Nat) (bins : List Rat) (a b : Rat)
    (hinc : (gather ip inds).Pairwise (· < ·)) (hn : 2 ≤ inds.length)
    (hlin : ∀ i ∈ inds, ∃ p, ip[i]? = some p ∧ x[i]? = some (a * p + b)) :
    alignCycle ip x inds bins = .ok (bins.map fun t => some (a * t + b)) := by
  obtain ⟨hx, hl⟩ := gather_affine hlin
  have hsorted : ((gather ip inds).map fun p => (p, a * p + b)).Pairwise fun p q => p.1 < q.1 :=
    List.pairwise_map.mpr hinc
  have hlen : 2 ≤ ((gather ip inds).map fun p => (p, a * p + b)).length := by rw [List.length_map, hl]; exact hn
  simp only [alignCycle, hx, ← List.map_prod_left_eq_zip, sortPts_of_sorted hsorted]
  rw [if_neg (by rw [List.isEmpty_iff]; intro h; simp [h] at hlen)]
  refine congrArg Except.ok (List.map_congr_left fun t _ => linInterp_affine _ a b t hsorted hlen fun p hp => ?_)
  obtain ⟨q, -, rfl⟩ := List.mem_map.mp hp
  rfl

/-- the whole call: whenever phase_align returns, column k is the alignment of cycle k's own
    samples; so for every cycle meeting the hypotheses of `alignCycle_affine` the returned
    column is `a·bins + b` -/
theorem phaseAlign_affine (ip x : List Rat) (cv : List Int) (bins : List Rat)
    (cols : List (List (Option Rat))) (h : phaseAlign ip x cv bins = .ok cols) :
    cols.length = nLabels cv ∧
    ∀ (k : Nat) (a b : Rat), k < nLabels cv →
      (gather ip (mapCycleToSamples cv k)).Pairwise (· < ·) → 2 ≤ (mapCycleToSamples cv k).length →
      (∀ i ∈ mapCycleToSamples cv k, ∃ p, ip[i]? = some p ∧ x[i]? = some (a * p + b)) →
      cols[k]? = some (bins.map fun t => some (a * t + b)) := by
  obtain ⟨hl, hk⟩ := phaseAlign_cols h
  refine ⟨hl, fun k a b hklt hinc hn hlin => ?_⟩
  obtain ⟨col, hcol, hget⟩ := hk k hklt
  rw [alignCycle_affine ip x _ bins a b hinc hn hlin] at hcol
  cases hcol
  exact hget

/-- The inputs `phase_align(ip, x, cycles=cv)` accepts (mode='cycle', linear): a non-empty label vector
    as long as the phase, a quantity as long as the phase, and at least ONE sample for every label
    0..max (a skipped label makes `interp1d` raise on the empty selection).  A one-sample cycle is
    accepted (see `alignCycle_one_sample`: its column is all-NaN), so are repeated / unsorted phases. -/
def AlignAccepts (ip x : List Rat) (cv : List Int) : Prop :=
  cv ≠ [] ∧ cv.length = ip.length ∧ ip.length = x.length ∧ ∀ k, k < nLabels cv → mapCycleToSamples cv k ≠ []

/-- WHEN the call returns (the hypothesis `h` of `phaseAlign_affine` made explicit): exactly on
    `AlignAccepts`; then there is one column per label and one entry per phase bin in every column.
    Every other input — empty label vector, mismatched lengths, a label without samples — is rejected
    with ValueError (no partial result). -/
theorem phaseAlign_returns_iff (ip x : List Rat) (cv : List Int) (bins : List Rat) :
    (AlignAccepts ip x cv → ∃ cols, phaseAlign ip x cv bins = .ok cols ∧ cols.length = nLabels cv ∧
        ∀ col ∈ cols, col.length = bins.length) ∧
    (¬ AlignAccepts ip x cv → phaseAlign ip x cv bins = .error .valueError) := by
  rw [phaseAlign_eq]
  refine ⟨fun h => ⟨_, if_pos h, by simp, fun col hcol => ?_⟩, fun hna => if_neg hna⟩
  obtain ⟨k, -, rfl⟩ := List.mem_map.mp hcol
  simp

/-- A cycle with a single sample is NOT rejected: linear interpolation needs two points, scipy
    accepts one and answers NaN everywhere — the column is all-missing (so the `2 ≤ length`
    hypothesis of `alignCycle_affine` is needed for the values, not for the call to return). -/
theorem alignCycle_one_sample (ip x : List Rat) (i : Nat) (bins : List Rat)
    (h1 : i < ip.length) (h2 : i < x.length) :
    alignCycle ip x [i] bins = .ok (bins.map fun _ => none) := by
  simp [alignCycle, gather, List.getElem?_eq_getElem h1, List.getElem?_eq_getElem h2, sortPts, insertPt, linInterp]

/-! ## phase binning -/

/-- np.digitize on strictly increasing edges: index b+1 means the half-open bin [e_b, e_{b+1}) -/
theorem digitize_spec (edges : List Rat) (v : Rat) (hs : edges.Pairwise (· < ·)) (b : Nat)
    (hb : b + 1 < edges.length) :
    digitize edges v = b + 1 ↔ edges[b] ≤ v ∧ v < edges[b + 1] :=
  digitize_eq_iff hs hb

/-- EVERY bin, the last one included, holds the mean (and the variance about it) of exactly the
    observations whose phase lies in [e_b, e_{b+1}); a bin that contains samples is therefore
    filled with their mean -/
theorem binByPhase_spec (edges ip x : List Rat) (hs : edges.Pairwise (· < ·)) (b : Nat)
    (hb : b + 1 < edges.length) :
    (binByPhase edges ip x).length = edges.length - 1 ∧
    (binByPhase edges ip x)[b]? =
      some (mean? (((ip.zip x).filter fun p => edges[b] ≤ p.1 ∧ p.1 < edges[b + 1]).map (·.2)),
            var? (((ip.zip x).filter fun p => edges[b] ≤ p.1 ∧ p.1 < edges[b + 1]).map (·.2))) ∧
    ∀ s, s = ((ip.zip x).filter fun p => edges[b] ≤ p.1 ∧ p.1 < edges[b + 1]).map (·.2) → s ≠ [] →
      ((binByPhase edges ip x)[b]?).map (·.1) = some (some (Sig.sum s / s.length)) := by
  rw [binByPhase_getElem? (by omega), binValues, filter_digitize hs hb]
  refine ⟨by simp [binByPhase], rfl, fun s hs' hne => ?_⟩
  rw [← hs', mean?_of_ne_nil hne]; rfl

/-- with `weights=`: every bin, the last one included, holds `wmean?` of exactly the (weight, observation)
    pairs whose phase lies in [e_b, e_{b+1}), which is the weighted mean Σw·x / Σw when the bin is not empty
    (on an empty bin `wmean?` is `none` by definition: the bin stays missing) -/
theorem binByPhaseW_spec (edges ip w x : List Rat) (hs : edges.Pairwise (· < ·)) (b : Nat)
    (hb : b + 1 < edges.length) :
    (binByPhaseW edges ip w x).length = edges.length - 1 ∧
    ∀ s, s = ((ip.zip (w.zip x)).filter fun p => edges[b] ≤ p.1 ∧ p.1 < edges[b + 1]).map (·.2) →
      (binByPhaseW edges ip w x)[b]? = some (wmean? s) ∧
      (s ≠ [] → wmean? s = some (Sig.sum (s.map fun p => p.1 * p.2) / Sig.sum (s.map (·.1)))) := by
  refine ⟨by simp [binByPhaseW], fun s hs' => ⟨?_, fun hne => ?_⟩⟩
  · rw [binByPhaseW, List.getElem?_map, List.getElem?_range (show b < edges.length - 1 by omega), Option.map_some,
      binPairs, filter_digitize hs hb, hs']
  · rw [wmean?, if_neg (by simpa using hne)]

/-! ## edge convention, sampling independence, default cycles (seeded changes C14-6, C14-7, C14-8) -/

/-- The bins are closed at their LOWER edge, for every edge, the first included: a sample lying exactly on
    edge b (b = 0: phase exactly 0) is digitised into bin b — the bin that starts there — never into the bin
    below and never dropped (`np.digitize(..., right=True)` would give index b, i.e. drop phase 0). -/
theorem sample_on_edge_in_bin_above (edges : List Rat) (hs : edges.Pairwise (· < ·)) (b : Nat)
    (hb : b + 1 < edges.length) : digitize edges edges[b] = b + 1 := by
  rw [digitize_eq_iff hs hb]
  refine ⟨Rat.le_refl, ?_⟩
  exact (List.pairwise_iff_getElem.mp hs) b (b + 1) (by omega) hb (by omega)

/-- **A sample on the first bin edge belongs to the first bin**: if sample i has phase exactly `edges[0]`,
    its observation is among the values averaged into bin 0, so bin 0 is filled (not NaN) — also when that
    sample is the only one in the bin. -/
theorem first_edge_sample_in_first_bin (edges ip x : List Rat) (hs : edges.Pairwise (· < ·))
    (h2 : 1 < edges.length) (i : Nat) (v : Rat) (hi : ip[i]? = some edges[0]) (hx : x[i]? = some v) :
    v ∈ binValues edges ip x 0 ∧
    ∃ m, ((binByPhase edges ip x)[0]?).map (·.1) = some (some m) := by
  have hmem : v ∈ binValues edges ip x 0 := by
    unfold binValues
    refine List.mem_map.mpr ⟨(edges[0], v), List.mem_filter.mpr ⟨?_, ?_⟩, rfl⟩
    · apply List.mem_iff_getElem?.mpr
      exact ⟨i, by simp [List.getElem?_zip_eq_some, hi, hx]⟩
    · simpa using sample_on_edge_in_bin_above edges hs 0 h2
  refine ⟨hmem, Sig.sum (binValues edges ip x 0) / (binValues edges ip x 0).length, ?_⟩
  rw [binByPhase_getElem? (by omega), Option.map_some, mean?_of_ne_nil (List.ne_nil_of_mem hmem)]

/-- **Independent of the step sizes and of the duration**: two cycles — of the same or of different
    recordings, with different numbers of samples (each ≥ 2) and ANY spacing of their strictly increasing
    phases, single steps larger than π included — carrying the same quantity `a·phase + b` give the
    IDENTICAL aligned column.  (No hypothesis bounds a phase increment: the per-cycle phase is used as it
    is; `np.unwrap` on it would fold a monotone cycle with one step > π.) -/
theorem alignCycle_affine_any_sampling (ip x ip' x' : List Rat) (inds inds' : List Nat) (bins : List Rat)
    (a b : Rat)
    (hinc : (gather ip inds).Pairwise (· < ·)) (hn : 2 ≤ inds.length)
    (hlin : ∀ i ∈ inds, ∃ p, ip[i]? = some p ∧ x[i]? = some (a * p + b))
    (hinc' : (gather ip' inds').Pairwise (· < ·)) (hn' : 2 ≤ inds'.length)
    (hlin' : ∀ i ∈ inds', ∃ p, ip'[i]? = some p ∧ x'[i]? = some (a * p + b)) :
    alignCycle ip x inds bins = alignCycle ip' x' inds' bins := by
  rw [alignCycle_affine ip x inds bins a b hinc hn hlin, alignCycle_affine ip' x' inds' bins a b hinc' hn' hlin']

/-- **`cycles=None`: the cycles aligned are those of the phase supplied.**  `phaseAlignDefault` is
    `phase_align` on the all-cycles vector `get_cycle_vector(ip, return_good=False)` of the SAME phase values
    (default `phase_step`): whenever it returns there is one column per cycle of that phase (the detector's
    cycle count), and every column whose cycle meets the hypotheses of `alignCycle_affine` is `a·bins + b`.
    The model is a function of the values: what an earlier call saw (seeded change C14-6: a memo keyed by
    the identity of the phase array) cannot enter. -/
theorem phaseAlign_default_cycles (g : Cycles.GoodCfg) (dstep : Rat) (ip x bins : List Rat)
    (cols : List (List (Option Rat))) (h : phaseAlignDefault g dstep ip x bins = .ok cols) :
    let cv := Cycles.cvIdx (Cycles.wrapAt dstep) (fun _ => true) ip
    phaseAlignDefault g dstep ip x bins = phaseAlign ip x cv bins ∧
    cv = Cycles.getCycleVector g dstep false ip (List.replicate ip.length true) ∧
    cols.length = Cycles.nCycles (Cycles.cvSegs (Cycles.wrapAt dstep) (fun _ => true) ip) ∧
    ∀ (k : Nat) (a b : Rat), k < cols.length →
      (gather ip (mapCycleToSamples cv k)).Pairwise (· < ·) → 2 ≤ (mapCycleToSamples cv k).length →
      (∀ i ∈ mapCycleToSamples cv k, ∃ p, ip[i]? = some p ∧ x[i]? = some (a * p + b)) →
      cols[k]? = some (bins.map fun t => some (a * t + b)) := by
  intro cv
  have hcv : cv = Cycles.getCycleVector g dstep false ip (List.replicate ip.length true) :=
    (Cycles.cvIdx_eq_paint _ _ _).trans (Cycles.getCycleVector_all g dstep ip).symm
  have hdef : phaseAlignDefault g dstep ip x bins = phaseAlign ip x cv bins := by rw [hcv]; rfl
  obtain ⟨hlen, haff⟩ := phaseAlign_affine ip x cv bins cols (hdef ▸ h)
  have hK : nLabels cv = Cycles.nCycles (Cycles.cvSegs (Cycles.wrapAt dstep) (fun _ => true) ip) :=
    (congrArg nLabels (Cycles.cvIdx_eq_paint _ _ _)).trans Maps.nLabels_paint
  exact ⟨hdef, hcv, hlen.trans hK, fun k a b hk => haff k a b (hlen ▸ hk)⟩

/-! ## non-vacuity -/

-- a labelling with a gap and two cycles; any reducer (here: the segment length) sees exactly each cycle
example : cycleStat List.length [1, 2, 3, 4, 5] [0, -1, 1, 1, -1] = [1, 2] := by decide
example : ([0, -1, 1, 1, -1] : List Int) ≠ [] := by decide
example : nLabels [0, -1, 1, 1, -1] = 2 := by decide
-- hypotheses of linInterp_affine / alignCycle_affine on three samples of y = 2x + 1
example : ([(0, 1), (1, 3), (3, 7)] : List (Rat × Rat)).Pairwise fun p q => p.1 < q.1 := by decide +kernel
example : ∀ p ∈ ([(0, 1), (1, 3), (3, 7)] : List (Rat × Rat)), p.2 = 2 * p.1 + 1 := by
  intro p hp; simp at hp; rcases hp with rfl | rfl | rfl <;> grind
-- `AlignAccepts` is satisfiable (two cycles, a gap) and refutable (label 1 skipped -> ValueError)
example : AlignAccepts [1, 2, 3, 4, 5] [0, 0, 0, 0, 0] [0, 0, -1, 1, 1] := by
  refine ⟨by decide, rfl, rfl, ?_⟩
  intro k hk
  have : k = 0 ∨ k = 1 := by have : nLabels [0, 0, -1, 1, 1] = 2 := by decide
                             omega
  rcases this with rfl | rfl <;> decide
example : ¬ AlignAccepts [1, 2, 3] [0, 0, 0] [0, 2, 2] := by
  rintro ⟨_, _, _, h⟩
  exact h 1 (by decide) (by decide)
-- strictly increasing edges with a last bin
example : ([0, 1, 2] : List Rat).Pairwise (· < ·) := by decide +kernel

-- the sharp cycle of seeded change C14-8 (8 samples, one step 27/20 -> 5 larger than π, still one monotone cycle):
-- `alignCycle_affine` applies to it (q = 3·phase − 1) whatever the grid
example : ([3/20, 9/20, 3/4, 21/20, 27/20, 5, 11/2, 6] : List Rat).Pairwise (· < ·) := by decide +kernel
example : (22/7 : Rat) < 5 - 27/20 := by decide +kernel
example (bins : List Rat) :
    alignCycle [3/20, 9/20, 3/4, 21/20, 27/20, 5, 11/2, 6] [-11/20, 7/20, 5/4, 43/20, 61/20, 14, 31/2, 17]
      [0, 1, 2, 3, 4, 5, 6, 7] bins = .ok (bins.map fun t => some (3 * t + -1)) := by
  apply alignCycle_affine
  · decide +kernel
  · decide
  · intro i hi
    simp only [List.mem_cons, List.not_mem_nil, or_false] at hi
    rcases hi with rfl | rfl | rfl | rfl | rfl | rfl | rfl | rfl <;> exact ⟨_, rfl, by decide +kernel⟩
-- a phase exactly on the first edge: alone in bin 0, and bin 0 is filled
example : binByPhase [0, 1, 2] [0, 3/2] [7, 9] = [(some 7, some 0), (some 9, some 0)] := by decide +kernel
-- default cycles: two wraps, three cycles of the phase supplied
example : (phaseAlignDefault { edge := 1/4, twopi := 6, endlo := 23/4 } 4 [1, 5, 0, 3, 6, 1] [1, 5, 0, 3, 6, 1] [1, 2]).toOption.map List.length
    = some 3 := by decide +kernel

end C14
