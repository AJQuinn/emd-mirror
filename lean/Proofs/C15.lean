/-
  C15 — the cycle container keeps metrics, subsets and chains coherent.
  Property theorems only (helper lemmas: Proofs/Lemmas/Container*.lean; the links to the models of
  C12–C14 and C16: Proofs/Lemmas/ComposeContainer.lean, ComposeStats.lean, ComposeCycles.lean).

  Model: EmdModel/Container.lean (`step : State → Op → State × Except Err Out`), over an arbitrary
  reducing function `f`, an arbitrary `float()` oracle `F`, arbitrary phases, values and histories.
-/
import Proofs.Lemmas.ContainerTrack
import Proofs.Lemmas.ContainerCache
import Proofs.Lemmas.ContainerChain
import Proofs.Lemmas.ComposeCycles
import Proofs.Lemmas.ComposeStats
import Proofs.Lemmas.ComposeContainer
import Proofs.C12

namespace C15
open Container

/-! ## The invariant, over every operation history -/

/-- The freshly constructed container satisfies the invariant (every metric has one entry per
    cycle, the label vector is well formed and, when there is a cycle, complete, names are unique). -/
theorem Inv_init (g : Cycles.GoodCfg) (pstep thr : Rat) (cache : Bool) (ph : List Rat) :
    Inv (init g pstep thr cache ph).1 :=
  step_inv (fun _ => none) (init0 pstep thr cache ph) (.computeMetric isGoodName ph (isGoodF g) .cycle)
    (init0_inv pstep thr cache ph)

/-- The constructor stores the quality flag of every cycle: entry k is the acceptance test on
    exactly the phase samples labelled k — whether the cache is on or off. -/
theorem init_is_good (g : Cycles.GoodCfg) (pstep thr : Rat) (cache : Bool) (ph : List Rat) :
    let s := (init g pstep thr cache ph).1
    sget s.metrics isGoodName = some ((List.range s.K).map fun (k : Nat) => some (isGoodF g (samplesOf s.cv ph (k : Int)))) := by
  simp [init_ok, sget, lookupStat, init0]

/-- A new container has no selection, so `chain_ind` tracking and condition tracking start out true. -/
theorem init_no_selection (F : List Char → Option Rat) (g : Cycles.GoodCfg) (pstep thr : Rat) (cache : Bool) (ph : List Rat) :
    (init g pstep thr cache ph).1.sel = none ∧ Tracked (init g pstep thr cache ph).1 ∧
      Synced F (init g pstep thr cache ph).1 := by
  have h : (init g pstep thr cache ph).1.sel = none := by rw [init_ok]; rfl
  refine ⟨h, ?_, ?_⟩
  · intro sel hs; rw [h] at hs; cases hs
  · intro sel hs; rw [h] at hs; cases hs

/-- Every operation preserves the invariant. -/
theorem Inv_step (F : List Char → Option Rat) (s : State) (op : Op) (h : Inv s) : Inv (step F s op).1 :=
  step_inv F s op h

/-- After any finite sequence of operations the invariant holds: every stored metric has exactly one
    entry per cycle, metric names are unique, `is_good` is stored, the subset vector has one entry per cycle
    and numbers the selected cycles in order, and the chain vector is the chain vector of that subset. -/
theorem Inv_run (F : List Char → Option Rat) (g : Cycles.GoodCfg) (pstep thr : Rat) (cache : Bool) (ph : List Rat)
    (ops : List Op) :
    let s := run F (init g pstep thr cache ph).1 ops
    (∀ e ∈ s.metrics, e.2.length = s.K) ∧ (s.metrics.map (·.1)).Nodup ∧
      (sget s.metrics isGoodName).isSome = true ∧
      ∀ sel, s.sel = some sel → sel.subset.length = s.K ∧
        sel.subset = subsetVector (sel.subset.map fun j => decide (0 ≤ j)) ∧ sel.chain = chainVector sel.subset := by
  have hI := run_inv F _ ops (Inv_init g pstep thr cache ph)
  have hG : HasGood (run F (init g pstep thr cache ph).1 ops) := by
    apply run_good
    rw [init_ok]; simp [HasGood, sget]
  exact ⟨hI.lens, hI.names, hG, fun sel hs => ⟨(hI.sel sel hs).len, (hI.sel sel hs).rank, (hI.sel sel hs).chain⟩⟩

/-- The invariant is preserved along every operation sequence, from every state that satisfies it. -/
theorem Inv_run_from (F : List Char → Option Rat) (s : State) (ops : List Op) (h : Inv s) : Inv (run F s ops) :=
  run_inv F s ops h

/-- The length guard: a metric with the wrong number of entries is rejected and nothing changes.
    CANONICALISED: the pinned `add_cycle_metric` *returns* its `ValueError(...)` object instead of raising it
    (emd/cycles.py, `return ValueError(...)`), so a caller sees no exception; the model answers `.error .value`
    and the harness turns a returned exception into a raised one (c15.py ASSUMPTIONS).  What the theorem says
    of the code is therefore only the second half: the store is left unchanged. -/
theorem add_metric_guard (F : List Char → Option Rat) (s : State) (name : Name) (v : List Val) (h : v.length ≠ s.K) :
    step F s (.addMetric name v) = (s, .error .value) := by
  simp [step, addMetric, h]

/-- A stored metric handed back as an integer metric (`add_cycle_metric(name, C.metrics[src], dtype=int)`): in every
    coherent state the call succeeds, stores the integer form (NaN → -1, truncation towards zero) of `src` under
    `name`, and — when the two names differ — leaves `src` EXACTLY as it was: "every stored metric equals the
    function applied to that cycle's samples" cannot be undone by adding another metric (seeded change C15-12:
    an int branch that rewrites the NaN of the array it is given, i.e. of the stored metric). -/
theorem add_from_int_spec (F : List Char → Option Rat) (s : State) (hI : Inv s) (name src : Name) (v : List Val)
    (hv : sget s.metrics src = some v) :
    step F s (.addFromInt name src) = ({ s with metrics := sset s.metrics name (toIntVals v) }, .ok .done) ∧
    sget (step F s (.addFromInt name src)).1.metrics name = some (toIntVals v) ∧
    (src ≠ name → sget (step F s (.addFromInt name src)).1.metrics src = some v) := by
  have hl : (toIntVals v).length = s.K := by
    unfold toIntVals; rw [List.length_map]; exact hI.lens _ (sget_mem hv)
  have e : step F s (.addFromInt name src) = ({ s with metrics := sset s.metrics name (toIntVals v) }, .ok .done) := by
    simp only [step, addFromInt, hv]; exact addMetric_ok hl
  refine ⟨e, ?_, fun hne => ?_⟩
  · rw [e]; exact sget_sset_same _ _ _
  · rw [e]; simp only; rw [sget_sset_other hne]; exact hv

/-- Non-vacuity of `add_from_int_spec`, for EVERY fresh container: the stored quality flag can be handed back
    as an integer metric `name ≠ is_good`; the call succeeds and `is_good` is still the flag of every cycle. -/
theorem add_from_int_on_fresh (F : List Char → Option Rat) (g : Cycles.GoodCfg) (pstep thr : Rat) (cache : Bool)
    (ph : List Rat) (name : Name) (hne : isGoodName ≠ name) :
    let s := (init g pstep thr cache ph).1
    (step F s (.addFromInt name isGoodName)).2 = .ok .done ∧
    sget (step F s (.addFromInt name isGoodName)).1.metrics isGoodName = sget s.metrics isGoodName := by
  intro s
  have hg := init_is_good g pstep thr cache ph
  have h := add_from_int_spec F s (Inv_init g pstep thr cache ph) name isGoodName _ hg
  refine ⟨by rw [h.1], ?_⟩
  rw [h.2.2 hne]; exact hg.symm

/-- An unknown source name is a `KeyError` that changes nothing. -/
theorem add_from_int_missing (F : List Char → Option Rat) (s : State) (name src : Name)
    (hv : sget s.metrics src = none) : step F s (.addFromInt name src) = (s, .error .key) := by
  simp [step, addFromInt, hv]

/-- The integer form has no NaN left: -1 marks "no value". -/
theorem toIntVals_no_nan (v : List Val) : ∀ x ∈ toIntVals v, x.isSome = true := by
  intro x hx
  unfold toIntVals at hx
  obtain ⟨y, _, rfl⟩ := List.mem_map.mp hx
  cases y <;> rfl

/-! ## Metric values -/

/-- A computed metric (cycle mode) has entry k = f applied to exactly the samples labelled k, for
    every reducing function, with the cache on or off — given one value per sample (`hv`; the code
    checks nothing, see `cache_relevant_short_vals`). -/
theorem metric_value (F : List Char → Option Rat) (s : State) (h : Inv s) (name : Name) (vals : List Rat)
    (f : List Rat → Rat) (hv : vals.length = s.cv.length) :
    (step F s (.computeMetric name vals f .cycle)).2 = .ok .done ∧
    sget (step F s (.computeMetric name vals f .cycle)).1.metrics name =
      some ((List.range s.K).map fun (k : Nat) => some (f (samplesOf s.cv vals (k : Int)))) := by
  simp only [step, computeMetric_ok h hv, sget_sset_same, true_and]
  simp [cycleStatV, lookupStat, nLabels_eq h.cv.1]

/-- A computed metric (augmented mode): entry k = f on the augmented segment of cycle k, NaN when
    there is none, with the cache on or off — given one value per sample (`hv`). -/
theorem metric_value_augmented (F : List Char → Option Rat) (s : State) (h : Inv s) (name : Name) (vals : List Rat)
    (f : List Rat → Rat) (hv : vals.length = s.cv.length) :
    (step F s (.computeMetric name vals f .augmented)).2 = .ok .done ∧
    sget (step F s (.computeMetric name vals f .augmented)).1.metrics name =
      some ((List.range s.K).map fun (k : Nat) => (augInds s.thr s.phase s.cv k).map fun seg => f (sliceVals vals seg)) := by
  simp only [step, computeMetric_ok h hv, sget_sset_same, true_and]
  simp only [cycleStatV, lookupAugStat, nLabels_eq h.cv.1]
  congr 1
  apply List.map_congr_left
  intro k _
  cases augInds s.thr s.phase s.cv k <;> rfl

/-- The augmented segment: none for the first cycle; for a later cycle it runs from the first sample of
    the previous cycle whose phase is past the threshold to the end of the cycle itself. -/
theorem augmented_segment (s : State) (h : Inv s) (k : Nat) (hk : k < s.K) :
    ∃ a b, indicesOf s.cv (k : Int) = List.range' a (b - a) ∧ a < b ∧
      match k with
      | 0 => augInds s.thr s.phase s.cv k = none
      | k' + 1 => ∃ a' b', indicesOf s.cv (k' : Int) = List.range' a' (b' - a') ∧
          augInds s.thr s.phase s.cv k = (firstAbove s.thr s.phase (List.range' a' (b' - a'))).map fun t => (t, b) := by
  obtain ⟨a, b, -, h2, h4⟩ := slice_spec h.cv.1 k hk
  refine ⟨a, b, h4, h2, ?_⟩
  cases k with
  | zero => exact augInds_zero (h.cv.2 hk)
  | succ k' =>
    obtain ⟨a', b', -, -, h4'⟩ := slice_spec h.cv.1 k' (by omega)
    exact ⟨a', b', h4', augInds_succ k' a b a' b' h4' h4 h2⟩

/-! ## Condition strings -/

/-- Printing then parsing: for every metric name without comparator characters, every comparator and
    every literal text not starting with a comparator character, the condition `name ++ sym ++ literal`
    parses to exactly (name, comparator, float(literal)); it is rejected with ValueError exactly when
    `float` rejects the literal. -/
theorem parse_print (F : List Char → Option Rat) (name : Name) (c : Cmp) (lit : List Char)
    (hn : ∀ ch ∈ name, isCmpChar ch = false) (hl : ∀ ch, lit.head? = some ch → isCmpChar ch = false) :
    parseCondition F (name ++ c.sym ++ lit) =
      match F lit with
      | some v => .ok (name, c, v)
      | none => .error .value := by
  obtain ⟨ch, t, hs⟩ : ∃ ch t, c.sym = ch :: t := by cases c <;> exact ⟨_, _, rfl⟩
  have hch : isCmpChar ch = true := sym_cmpChars c ch (by simp [hs])
  rw [List.append_assoc, parseCondition_append F name (c.sym ++ lit) hn (by rw [hs]; intro x hx; simp at hx; exact hx ▸ hch),
    recogniseCmp_sym c lit hl, (takeWhile_dropWhile_append isCmpChar c.sym lit (sym_cmpChars c) hl).2, hs]
  cases F lit <;> rfl

/-- A string without any comparator character is rejected (IndexError). -/
theorem parse_no_comparator (F : List Char → Option Rat) (s : Cond) (h : ∀ ch ∈ s, isCmpChar ch = false) :
    parseCondition F s = .error .index := by
  simpa using parseCondition_append F s [] h (by simp)

/-- The six comparators mean what they say (on numbers); every comparison with NaN is false except `!=`. -/
theorem cmp_sem (x v : Rat) :
    (Cmp.eq.eval (some x) v = true ↔ x = v) ∧ (Cmp.ne.eval (some x) v = true ↔ x ≠ v) ∧
    (Cmp.lt.eval (some x) v = true ↔ x < v) ∧ (Cmp.le.eval (some x) v = true ↔ x ≤ v) ∧
    (Cmp.gt.eval (some x) v = true ↔ v < x) ∧ (Cmp.ge.eval (some x) v = true ↔ v ≤ x) ∧
    (∀ c, c.eval none v = true ↔ c = Cmp.ne) := by
  refine ⟨by simp [Cmp.eval], by simp [Cmp.eval], by simp [Cmp.eval], by simp [Cmp.eval], by simp [Cmp.eval],
    by simp [Cmp.eval], ?_⟩
  intro c; cases c <;> simp [Cmp.eval]

/-- A cycle matches a list of conditions iff it satisfies every one of them: each condition parses,
    names a stored metric, and the comparator holds between that metric's entry and the literal. -/
theorem matching_is_conjunction (F : List Char → Option Rat) (m : Store) (conds : List Cond) (valids : List Bool)
    (h : matching F m conds = .ok valids) :
    (∃ g, sget m isGoodName = some g ∧ valids.length = g.length) ∧
    ∀ k, k < valids.length →
      (valids[k]? = some true ↔
        ∀ c ∈ conds, ∃ name cmp lit col x, parseCondition F c = .ok (name, cmp, lit) ∧ sget m name = some col ∧
          col[k]? = some x ∧ cmp.eval x lit = true) := by
  obtain ⟨g, cols, hg, hc, rfl⟩ := matching_ok h
  refine ⟨⟨g, hg, by simp⟩, fun k hk => ?_⟩
  simp only [List.length_map, List.length_range] at hk
  simp only [List.getElem?_map, List.getElem?_range hk, Option.map_some, Option.some.injEq,
    evalConds_all F m conds cols hc k, evalCond_getElem?_iff]

/-! ## Subsets and chains -/

/-- The subset vector numbers the selected cycles in order: -1 for a cycle that is not selected, the
    number of selected cycles before it otherwise. -/
theorem subset_is_rank (valids : List Bool) (k : Nat) (b : Bool) (h : valids[k]? = some b) :
    (subsetVector valids)[k]? = some (if b then (((valids.take k).count true : Nat) : Int) else -1) := by
  rw [ComposeCycles.subsetVector_agree, Maps.subsetVector, Maps.subsetFrom_getElem?, h]
  simp

/-- A successful selection stores the given conditions, the rank vector of exactly the cycles matching
    all of them (evaluated on the metrics at that moment), its chains, and the `chain_ind` metric;
    a rejected selection changes nothing. -/
theorem pick_selects (F : List Char → Option Rat) (s : State) (h : Inv s) (conds : List Cond) :
    match matching F s.metrics conds with
    | .ok valids =>
        (step F s (.pickSubset conds)).2 = .ok .done ∧
        (step F s (.pickSubset conds)).1.sel =
          some { conds, subset := subsetVector valids, chain := chainVector (subsetVector valids) } ∧
        sget (step F s (.pickSubset conds)).1.metrics chainIndName =
          some (chainInd (subsetVector valids) (chainVector (subsetVector valids)))
    | .error e => step F s (.pickSubset conds) = (s, .error e) := by
  cases hm : matching F s.metrics conds with
  | error e => simp [step, pickSubset, hm]
  | ok valids =>
    simp only [step, pickSubset_ok F h conds valids hm, sget_sset_same, and_self]

/-- Chains are the maximal runs of consecutive selected cycles.  For two selected cycles (the a-th and
    b-th of the subset, a ≤ b, cycle numbers ia and ib): the chain number never decreases, and they are in
    the same chain exactly when every cycle from ia to ib is selected (ib = ia + (b - a)). -/
theorem chain_maximal_runs (subset : List Int) (a b ia ib ca cb : Nat) (hab : a ≤ b)
    (hia : (selected subset)[a]? = some ia) (hib : (selected subset)[b]? = some ib)
    (hca : (chainVector subset)[a]? = some ca) (hcb : (chainVector subset)[b]? = some cb) :
    ca ≤ cb ∧ (ca = cb ↔ ib = ia + (b - a)) := by
  obtain ⟨d, rfl⟩ := Nat.exists_eq_add_of_le hab
  rw [ComposeCycles.selected_agree] at hia hib
  have := Maps.chain_gap hia hib (ComposeCycles.chainVector_getElem? hca) (ComposeCycles.chainVector_getElem? hcb)
  omega

/-- The selected cycles are exactly those with a non-negative subset entry, in increasing order, and the
    chain vector has one entry per selected cycle, numbered from zero in steps of at most one. -/
theorem chain_numbering (subset : List Int) :
    (∀ k, k ∈ selected subset ↔ ∃ j, subset[k]? = some j ∧ 0 ≤ j) ∧
    (selected subset).Pairwise (· < ·) ∧ (chainVector subset).length = (selected subset).length ∧
    (∀ c, (chainVector subset)[0]? = some c → c = 0) ∧
    ∀ j x y, (chainVector subset)[j]? = some x → (chainVector subset)[j + 1]? = some y → y = x ∨ y = x + 1 := by
  refine ⟨?_, ?_, chainOfSel_length _, ?_, ?_⟩
  · intro k
    rw [ComposeCycles.selected_agree, Maps.mem_selected]
    exact exists_congr fun l => and_congr_right fun _ => by omega
  · rw [ComposeCycles.selected_agree]; exact Maps.selected_sorted subset
  · intro c
    cases hs : selected subset <;> simp [chainVector, hs, chainOfSel, eq_comm]
  · intro j x y hx hy
    have := Maps.chainVector_step (ComposeCycles.chainVector_getElem? hx) (ComposeCycles.chainVector_getElem? hy)
    omega

/-- The `chain_ind` metric agrees with the chains: as long as no operation stores a metric under the
    name `chain_ind`, after every operation sequence entry k of `chain_ind` is the chain number of cycle k
    if it is selected and -1 otherwise. -/
theorem chain_ind_agrees (F : List Char → Option Rat) (g : Cycles.GoodCfg) (pstep thr : Rat) (cache : Bool) (ph : List Rat)
    (ops : List Op) (hops : ∀ op ∈ ops, chainIndName ∉ op.stores) :
    let s := run F (init g pstep thr cache ph).1 ops
    ∀ sel, s.sel = some sel → ∃ col, sget s.metrics chainIndName = some col ∧
      ∀ (k : Nat) (j : Int), sel.subset[k]? = some j →
        col[k]? = some (some (if 0 ≤ j then (match sel.chain[j.toNat]? with | some c => (c : Rat) | none => -1) else -1)) := by
  have key : ∀ s, Container.Inv s → Tracked s → Tracked (run F s ops) := fun s hI hT =>
    (run_induct F (fun t => Container.Inv t ∧ Tracked t) ops
      (fun t op hop ht => ⟨step_inv F t op ht.1, tracked_step F t op ht.1 ht.2 (hops op hop)⟩) s ⟨hI, hT⟩).2
  have h0 : Tracked (init g pstep thr cache ph).1 := (init_no_selection F g pstep thr cache ph).2.1
  intro s sel hsel
  exact ⟨_, key _ (Inv_init g pstep thr cache ph) h0 sel hsel, fun _ _ => chainInd_getElem?⟩

/-- The selection keeps describing the stored conditions: if the stored subset is the set of cycles
    matching the stored conditions, it still is after any operation that does not overwrite a metric those
    conditions mention (and, for a new selection, whose conditions do not mention `chain_ind`, which the
    selection itself rewrites). -/
theorem selection_tracks_conditions (F : List Char → Option Rat) (s : State) (op : Op) (hI : Inv s) (h : Synced F s)
    (hop : ∀ sel, s.sel = some sel → ∀ n ∈ op.stores, n ∉ condNames F sel.conds)
    (hpick : ∀ conds, op = .pickSubset conds → chainIndName ∉ condNames F conds) :
    Synced F (step F s op).1 :=
  synced_step F s op hI h hop hpick

/-- A chain metric: every selected cycle carries f of all samples of its chain (truncated to an integer
    on the dtype=int route), every other cycle NaN (-1 on the integer route).  Stated for one value per
    sample (`_hv`): `chainSamples` pairs labels with values positionally, the code indexes `vals` with the
    chain's sample numbers and raises IndexError on a shorter vector (outside the model: the protocol
    handler rejects such a vector for this operation). -/
theorem chain_metric_value (F : List Char → Option Rat) (s : State) (h : Inv s) (sel : Sel) (hs : s.sel = some sel)
    (name : Name) (vals : List Rat) (f : List Rat → Rat) (asInt : Bool) (_hv : vals.length = s.cv.length) :
    (step F s (.computeChainMetric name vals f asInt)).2 = .ok .done ∧
    ∃ col, sget (step F s (.computeChainMetric name vals f asInt)).1.metrics name = some col ∧
      ∀ (k : Nat) (j : Int), sel.subset[k]? = some j →
        col[k]? = some (if 0 ≤ j then
            (match sel.chain[j.toNat]? with
             | some c => some (if asInt then truncR (f (chainSamples s.cv sel.subset sel.chain vals c))
                               else f (chainSamples s.cv sel.subset sel.chain vals c))
             | none => if asInt then some (-1) else none)
          else if asInt then some (-1) else none) := by
  simp only [step, (computeChainMetric_ok s h sel hs name vals f asInt).2, true_and]
  refine ⟨_, sget_sset_same _ _ _, ?_⟩
  intro k j hj
  have hproj := projChainToCycles_getElem? (fun c => some (f (chainSamples s.cv sel.subset sel.chain vals c))) sel.chain hj
  rw [show (List.range (nChains sel.chain)).map _ = chainStat f s.cv sel.subset sel.chain vals from rfl] at hproj
  -- the dtype step acts entry by entry
  rw [apply_ite (·[k]?), toIntVals, List.getElem?_map, hproj]
  by_cases h0 : 0 ≤ j
  · simp only [h0, ite_true]
    cases sel.chain[j.toNat]? <;> cases asInt <;> rfl
  · simp only [h0, ite_false]
    cases asInt <;> rfl

/-- The `chain_position` metric (`compute_position_in_chain`, last step of `compute_chain_timings`): with a
    selection in place the call succeeds, and entry k is -1 for a cycle that is not selected, otherwise the
    number of selected cycles of the same chain that come before it (0 for the first cycle of a chain). -/
theorem chain_position_spec (F : List Char → Option Rat) (s : State) (h : Inv s) (sel : Sel) (hs : s.sel = some sel) :
    (step F s .computeChainTimings).2 = .ok .done ∧
    ∃ col, sget (step F s .computeChainTimings).1.metrics chainPositionName = some col ∧
      ∀ (k : Nat) (j : Int), sel.subset[k]? = some j →
        col[k]? = some (some (if 0 ≤ j then
            (match sel.chain[j.toNat]? with
             | some c => (((sel.chain.take j.toNat).count c : Nat) : Rat)
             | none => -1)
          else -1)) := by
  obtain ⟨h1, h2⟩ := chainTimings_position s h sel hs
  exact ⟨h1, _, h2, fun _ _ => chainPosition_getElem?⟩

/-- The routine itself (`Cycles.compute_position_in_chain`): ValueError without a selection, otherwise it
    stores the vector described in `chain_position_spec` under `chain_position` and touches nothing else. -/
theorem position_in_chain_spec (s : State) :
    (s.sel = none → computePositionInChain s = (s, .error .value)) ∧
    (∀ sel, s.sel = some sel → computePositionInChain s =
        ({ s with metrics := sset s.metrics chainPositionName (chainPosition sel) }, .ok .done)) := by
  refine ⟨fun hs => by simp [computePositionInChain, hs], fun sel hs => computePositionInChain_ok s sel hs⟩

/-! ## Frame: an operation changes only what it names -/

/-- **Frame.**  An operation leaves every metric it does not write exactly as it was (`Op.writes`: the name
    given to compute / add / chain metric, the three timing names, the five chain-timing names, `chain_ind`
    for a selection; nothing for exports and matching), never touches the label vector, the cycle count, the
    phase, the threshold or the cache flag, and only a selection changes the selection. -/
theorem metric_frame (F : List Char → Option Rat) (s : State) (op : Op) (name : Name) (hn : name ∉ op.writes) :
    sget (step F s op).1.metrics name = sget s.metrics name ∧
    (step F s op).1.cv = s.cv ∧ (step F s op).1.K = s.K ∧ (step F s op).1.phase = s.phase ∧
    (step F s op).1.thr = s.thr ∧ (step F s op).1.cache = s.cache ∧
    ((∀ c, op ≠ .pickSubset c) → (step F s op).1.sel = s.sel) :=
  ⟨step_sget_other F s op name hn, (step_frame F s op).1, (step_frame F s op).2.1, (step_frame F s op).2.2.1,
    (step_frame F s op).2.2.2.1, (step_frame F s op).2.2.2.2, step_sel_other F s op⟩

/-- A stored metric persists unchanged through every sequence of operations none of which writes its name. -/
theorem metric_persists (F : List Char → Option Rat) (s : State) (ops : List Op) (name : Name)
    (hn : ∀ op ∈ ops, name ∉ op.writes) : sget (run F s ops).metrics name = sget s.metrics name :=
  run_induct F (fun t => sget t.metrics name = sget s.metrics name) ops
    (fun t op hop ht => (step_sget_other F t op name (hn op hop)).trans ht) s rfl

/-- "After any sequence of operations": a metric computed at some point still has entry k = f on exactly the
    samples labelled k after any later operations that do not write its name. -/
theorem metric_value_persists (F : List Char → Option Rat) (s : State) (h : Inv s) (name : Name) (vals : List Rat)
    (f : List Rat → Rat) (hv : vals.length = s.cv.length) (ops : List Op) (hn : ∀ op ∈ ops, name ∉ op.writes) :
    sget (run F s (.computeMetric name vals f .cycle :: ops)).metrics name =
      some ((List.range s.K).map fun (k : Nat) => some (f (samplesOf s.cv vals (k : Int)))) := by
  rw [run_cons, metric_persists F _ ops name hn]
  exact (metric_value F s h name vals f hv).2

/-! ## The cache changes nothing -/

/-- Slice cache = label lookup: on a well-formed label vector the k-th cached slice holds exactly the
    values of the samples labelled k. -/
theorem sliceCache_eq_lookup (cv : List Int) (K : Nat) (h : WF cv K) (vals : List Rat) (hv : vals.length = cv.length)
    (k : Nat) (hk : k < K) :
    ∃ sl, (sliceCache cv)[k]? = some sl ∧ sliceVals vals sl = samplesOf cv vals (k : Int) :=
  slice_eq_samples h k hk

/-- Turning the cache flag on or off before an operation changes neither its output nor the state it
    leads to (other than the flag itself) — for every operation, both metric modes, no regularity
    assumption on the phase.  Hypothesis `hv` (`Op.ValsOK`): a per-sample vector handed to
    `compute_cycle_metric` has one value per sample, in BOTH modes.  It cannot be dropped
    (`cache_relevant_short_vals`): the code has no length check and its two routes treat a short vector
    differently.  A vector of another length is not a per-sample vector of the container's record, i.e. not
    one of the inputs the property quantifies over ("compute metric" on the container's samples). -/
theorem cache_irrelevant (F : List Char → Option Rat) (s : State) (op : Op) (h : Inv s) (hv : op.ValsOK s.cv.length) :
    (step F (setCache true s) op).2 = (step F (setCache false s) op).2 ∧
    (step F (setCache true s) op).1 = setCache true (step F (setCache false s) op).1 := by
  rw [step_setCache F true s op h hv, step_setCache F false s op h hv]
  exact ⟨rfl, rfl⟩

/-- **Without one value per sample the cache is NOT irrelevant** (the hypothesis of `cache_irrelevant` is
    needed, and the model keeps the code's behaviour): `compute_cycle_metric` checks no length; on a container
    with at least one cycle and a value vector shorter than the record, the label-lookup route
    (`use_cache=False`) raises IndexError and stores nothing, while the slice-cache route succeeds and stores
    `f` of the clipped slices `vals[start:stop]`.  Real code, phase `[0.1,3.1,6.2]*4`, `vals=arange(7)`,
    `np.sum`: cache on → `[3,12,6,0]`, cache off → IndexError (corpus case tagged `outside-domain`). -/
theorem cache_relevant_short_vals (F : List Char → Option Rat) (s : State) (h : Inv s) (hK : 0 < s.K) (name : Name)
    (vals : List Rat) (f : List Rat → Rat) (hv : vals.length < s.cv.length) :
    step F (setCache false s) (.computeMetric name vals f .cycle) = (setCache false s, .error .index) ∧
    (step F (setCache true s) (.computeMetric name vals f .cycle)).2 = .ok .done ∧
    sget (step F (setCache true s) (.computeMetric name vals f .cycle)).1.metrics name =
      some ((sliceCache s.cv).map fun sl => some (f (sliceVals vals sl))) := by
  refine ⟨computeMetric_short_raises (inv_setCache false h) rfl hK vals f hv, ?_⟩
  simp only [step, computeMetric_cache_ok (inv_setCache true h) rfl, sget_sset_same, true_and]
  simp [cycleStatV, sliceStat, setCache]

/-- The same in augmented mode, on the example container (6 samples, 3 cycles) with 3 values: cache off
    raises IndexError (the augmented segment of cycle 1 is samples 1..4), cache on stores a metric. -/
theorem cache_relevant_short_vals_augmented (F : List Char → Option Rat) (f : List Rat → Rat) :
    step F (setCache false exState) (.computeMetric ['a'] [1, 2, 3] f .augmented) = (setCache false exState, .error .index) ∧
    (step F (setCache true exState) (.computeMetric ['a'] [1, 2, 3] f .augmented)).2 = .ok .done := by
  constructor
  · have : lookupAugStatE f exState.thr exState.phase exState.cv [1, 2, 3] = .error .index := by
      rw [lookupAugStatE_eq, if_neg]
      intro hall
      exact absurd (hall 1 (by decide +kernel) (1, 5) (by decide +kernel) 4 (by decide +kernel)) (by decide +kernel)
    simp only [step, computeMetric, setCache, cycleStat, this]
  · simp only [step, computeMetric_cache_ok (inv_setCache true exState_inv) rfl]

/-- Over a whole lifetime: two containers built from the same phase with the cache on and off go through
    the same states (up to the flag) and give the same outputs under every operation sequence. -/
theorem cache_irrelevant_run (F : List Char → Option Rat) (g : Cycles.GoodCfg) (pstep thr : Rat) (ph : List Rat)
    (ops : List Op) (hv : ∀ op ∈ ops, op.ValsOK ph.length) :
    run F (init g pstep thr true ph).1 ops = setCache true (run F (init g pstep thr false ph).1 ops) ∧
    runOuts F (init g pstep thr true ph).1 ops = runOuts F (init g pstep thr false ph).1 ops ∧
    (init g pstep thr true ph).2 = (init g pstep thr false ph).2 := by
  have h1 : (init g pstep thr true ph).1 = setCache true (init g pstep thr false ph).1 := by
    rw [init_ok, init_ok]
    dsimp only [init0, setCache]
  have h2 : (init g pstep thr true ph).2 = (init g pstep thr false ph).2 := by rw [init_ok, init_ok]
  have hcv : (init g pstep thr false ph).1.cv.length = ph.length := by
    rw [init_ok]; exact (init0_cv_length pstep thr false ph).symm
  have := run_setCache F true (init g pstep thr false ph).1 ops (Inv_init g pstep thr false ph) (by rw [hcv]; exact hv)
  rw [h1]
  exact ⟨this.1, this.2, h2⟩

/-! ## Tabular exports -/

/-- The full export has one column per metric in store order, one row per cycle, and cell (k, metric)
    is that metric's entry for cycle k. -/
theorem export_all_spec (F : List Char → Option Rat) (s : State) (h : Inv s) :
    ∃ t, exportTable F s .all = .ok t ∧ t.cols = s.metrics.map (·.1) ∧ t.rows.length = s.K ∧
      ∀ k, k < s.K → ∃ row, t.rows[k]? = some row ∧ row.length = s.metrics.length ∧
        ∀ (j : Nat) (name : Name) (col : List Val), s.metrics[j]? = some (name, col) →
          ∃ x, col[k]? = some x ∧ row[j]? = some x := by
  refine ⟨tableAll s, rfl, rfl, by simp [tableAll], ?_⟩
  intro k hk
  refine ⟨rowOf s.metrics k, by simp [tableAll, List.getElem?_range hk], by simp [rowOf], ?_⟩
  intro j name col hj
  have hlen : col.length = s.K := h.lens (name, col) (List.mem_of_getElem? hj)
  refine ⟨col[k]'(by omega), List.getElem?_eq_getElem (by omega), ?_⟩
  simp [rowOf, List.getElem?_map, hj, List.getElem?_eq_getElem (show k < col.length by omega)]

/-- The subset export shows exactly the selected cycles, in order: its rows are the cycles with a
    non-negative subset entry, each row being the cycle number followed by that cycle's metric entries. -/
theorem export_subset_spec (F : List Char → Option Rat) (s : State) (h : Inv s) (sel : Sel) (hs : s.sel = some sel)
    (t : Table) (ht : exportTable F s .subset = .ok t) :
    t.rows = (selected sel.subset).map (fun (k : Nat) => some (k : Rat) :: rowOf s.metrics k) ∧
    t.cols.tail = s.metrics.map (·.1) := by
  simp only [exportTable, hs] at ht
  have := tableKeep_rows s _ (by rw [List.length_map, (h.sel sel hs).len]) t ht
  rw [indicesFrom_eq, List.positions_map, ← indicesFrom_eq] at this
  have e : (fun j : Int => decide (0 ≤ j)) = fun j => decide (-1 < j) := by funext j; exact decide_eq_decide.mpr (by omega)
  rwa [e] at this

/-- The conditions export shows exactly the cycles matching all the given conditions, in order. -/
theorem export_conds_spec (F : List Char → Option Rat) (s : State) (conds : List Cond) (valids : List Bool)
    (h : Inv s) (hm : matching F s.metrics conds = .ok valids) (t : Table) (ht : exportTable F s (.conds conds) = .ok t) :
    t.rows = (indicesFrom (fun b => b) 0 valids).map (fun (k : Nat) => some (k : Rat) :: rowOf s.metrics k) ∧
    t.cols.tail = s.metrics.map (·.1) := by
  simp only [exportTable, hm] at ht
  exact tableKeep_rows s valids (matching_valids_length h hm) t ht

/-! ## Non-vacuity: the hypotheses are satisfiable on a concrete, non-trivial container -/

example : Container.Inv exState := exState_inv
example : WF [0, 0, 1, 1, 1, 2] 3 := exState_wf

-- metric values, both modes, any reducing function, on the example container (6 samples, 3 cycles)
example (F : List Char → Option Rat) (f : List Rat → Rat) :=
  metric_value F exState exState_inv ['m'] [1, 2, 3, 4, 5, 6] f (by decide +kernel)
example (F : List Char → Option Rat) (f : List Rat → Rat) :=
  metric_value_augmented F exState exState_inv ['a'] [1, 2, 3, 4, 5, 6] f (by decide +kernel)
example := augmented_segment exState exState_inv 1 (by decide +kernel)
example (F : List Char → Option Rat) (f : List Rat → Rat) :=
  cache_irrelevant F exState (.computeMetric ['m'] [1, 2, 3, 4, 5, 6] f .cycle) exState_inv (by show ([1, 2, 3, 4, 5, 6] : List Rat).length = _; decide +kernel)
example (F : List Char → Option Rat) (f : List Rat → Rat) :=
  cache_irrelevant F exState (.computeMetric ['m'] [1, 2, 3, 4, 5, 6] f .augmented) exState_inv (by show ([1, 2, 3, 4, 5, 6] : List Rat).length = _; decide +kernel)
example (F : List Char → Option Rat) (f : List Rat → Rat) :=
  chain_metric_value F exState exState_inv _ rfl ['c'] [1, 2, 3, 4, 5, 6] f true (by decide +kernel)
example (F : List Char → Option Rat) := pick_selects F exState exState_inv [['i', 's', '_', 'g', 'o', 'o', 'd', '=', '=', '1']]

-- the cache is relevant for a short value vector: 3 values on the 6-sample example container
example (F : List Char → Option Rat) (f : List Rat → Rat) :=
  cache_relevant_short_vals F exState exState_inv (by decide +kernel) ['m'] [1, 2, 3] f (by decide +kernel)
example (F : List Char → Option Rat) := chain_position_spec F exState exState_inv _ rfl
-- cycles 0 and 2 selected as two chains: both are first in their chain, cycle 1 is not selected
example : chainPosition { conds := [], subset := [0, -1, 1], chain := [0, 1] } = [some 0, some (-1), some 0] := by
  decide +kernel
example : chainPosition { conds := [], subset := [0, 1, 2, -1, 3], chain := [0, 0, 0, 1] } =
    [some 0, some 1, some 2, some (-1), some 0] := by decide +kernel
example (F : List Char → Option Rat) (f : List Rat → Rat) :=
  metric_frame F exState (.computeMetric ['m'] [1, 2, 3, 4, 5, 6] f .cycle) isGoodName
    (by show isGoodName ∉ [['m']]; decide +kernel)
example (F : List Char → Option Rat) := metric_frame F exState (.pickSubset []) isGoodName (by decide +kernel)

-- a condition with a negative decimal exponent literal: `dur>=-1.5e0`
example (F : List Char → Option Rat) (h : F ['-', '1', '.', '5', 'e', '0'] = some (-3/2)) :
    parseCondition F ['d', 'u', 'r', '>', '=', '-', '1', '.', '5', 'e', '0'] = .ok (['d', 'u', 'r'], .ge, -3/2) := by
  have := parse_print F ['d', 'u', 'r'] .ge ['-', '1', '.', '5', 'e', '0'] (by decide +kernel) (by decide +kernel)
  rw [h] at this
  exact this

-- subset and chains of a five-cycle selection: cycles 0, 2, 3 selected → two chains {0}, {2, 3}
example : subsetVector [true, false, true, true, false] = [0, -1, 1, 2, -1] := by decide +kernel
example : selected [0, -1, 1, 2, -1] = [0, 2, 3] ∧ chainVector [0, -1, 1, 2, -1] = [0, 1, 1] := by decide +kernel
example := chain_maximal_runs [0, -1, 1, 2, -1] 1 2 2 3 1 1 (by decide +kernel) (by decide +kernel) (by decide +kernel) (by decide +kernel) (by decide +kernel)
example := subset_is_rank [true, false, true, true, false] 3 true (by decide +kernel)

/-! ### Link to the index-map model (C16)

The container model and the index-map model (`EmdModel/Maps.lean`) each have their own subset and chain
vectors.  In every coherent container state the stored subset and chain vectors are exactly the vectors
`Maps.subsetVector` / `Maps.chainVector` that C16's theorems characterise (rank among selected
cycles, maximal runs, round trips, projections) — so those theorems apply to the container. -/
theorem container_vectors_are_index_map_vectors (s : State) (h : Inv s) (sel : Sel) (hs : s.sel = some sel) :
    ∃ valids : List Bool, valids.length = s.K ∧
      sel.subset = Maps.subsetVector valids ∧
      sel.chain.map (fun (n : Nat) => (n : Int)) = Maps.chainVector (Maps.subsetVector valids) := by
  have ok := h.sel sel hs
  refine ⟨sel.subset.map fun j => decide (0 ≤ j), by simp [ok.len], ?_, ?_⟩
  · rw [← ComposeCycles.subsetVector_agree]; exact ok.rank
  · rw [← ComposeCycles.subsetVector_agree, ← ok.rank, ok.chain, ComposeCycles.chainVector_agree]

/-- Link to the per-cycle statistics model (C14): the container's label-lookup route computes exactly
    `CycleStats.cycleStat`, of which C14 proves that entry k is f applied to precisely the samples
    carrying label k (for every f and every labelling with gaps). -/
theorem metric_is_cycle_statistic (f : List Rat → Rat) (cv : List Int) (vals : List Rat) :
    lookupStat f cv vals = (CycleStats.cycleStat f vals cv).map some := by
  unfold lookupStat
  rw [ComposeStats.nLabels_agree, CycleStats.cycleStat_eq, List.map_map]
  exact List.map_congr_left fun k _ => congrArg (fun l => some (f l)) (ComposeStats.samplesOf_agree cv vals k)

/-- Link to the cycle detector's model (C12) and to C16's well-formedness: in every state reachable
    from the constructor by any operation history, the container's label vector **is** the C12 cycle
    vector of the phase with all cycles requested and no mask (`get_cycle_vector(phase,
    return_good=False)`; run-shaped and code-shaped model), `K` is the detector's number of cycles, the
    vector has one label per sample and is well formed in the sense of the index-map model (labels
    0..K-1 all used, non-decreasing, contiguous blocks — C16's hypothesis).  With at least one wrap it
    covers every sample with a label in 0..K-1; without a wrap there is no cycle at all. -/
theorem container_cv_is_cycle_vector (F : List Char → Option Rat) (g : Cycles.GoodCfg) (pstep thr : Rat)
    (cache : Bool) (ph : List Rat) (ops : List Op) :
    let s := run F (init g pstep thr cache ph).1 ops
    s.cv = Cycles.getCycleVector g pstep false ph (List.replicate ph.length true) ∧
    s.cv = Cycles.cvIdx (Cycles.wrapAt pstep) (fun _ => true) ph ∧
    s.K = Cycles.nCycles (Cycles.cvSegs (Cycles.wrapAt pstep) (fun _ => true) ph) ∧
    s.cv.length = ph.length ∧
    Maps.WF s.cv s.K ∧
    (Cycles.wrapIdx (Cycles.wrapAt pstep) ph 0 ≠ [] → ∀ l ∈ s.cv, 0 ≤ l ∧ l < (s.K : Int)) ∧
    (Cycles.wrapIdx (Cycles.wrapAt pstep) ph 0 = [] → s.K = 0 ∧ ∀ l ∈ s.cv, l = -1) := by
  intro s
  obtain ⟨hcv, hK⟩ : s.cv = _ ∧ s.K = _ := ComposeContainer.run_cv F g pstep thr cache ph ops
  have hwf : Maps.WF s.cv s.K := by rw [hcv, hK]; exact Maps.paint_cvSegs_wf
  -- no wrap position found = at most one run; all three descriptions of the vector are the painted partition
  rw [ne_eq, Cycles.wrapIdx_nil_iff, Cycles.getCycleVector_all, C12.code_model_refines]
  refine ⟨hcv, hcv, hK, hcv ▸ C12.cv_length _ _ _, hwf, fun hw l hl => ⟨?_, (hwf.range l hl).2⟩,
    fun hw => ⟨hK.trans (Cycles.nCycles_of_no_wrap hw), fun l hl => ?_⟩⟩
  · exact C12.cv_all_cover _ ph (by omega) l (hcv ▸ hl)
  · exact C12.cv_no_wrap_none _ _ ph hw l (hcv ▸ hl)

-- non-vacuity: a phase with two wraps (three cycles) — the hypothesis `wrapIdx … ≠ []` is satisfiable
example : Cycles.wrapIdx (Cycles.wrapAt 4) [1, 5, 0, 3, 6, 1] 0 = [2, 5] := by decide +kernel
example : Cycles.cvIdx (Cycles.wrapAt 4) (fun _ => true) [1, 5, 0, 3, 6, 1] = [0, 0, 1, 1, 1, 2] := by decide +kernel

/-- Link to the quality-check model (C13): `EmdModel/Cycles.lean` has its own model of "the container's
    per-cycle quality flag" (`Cycles.containerIsGood`: `is_good` on every run of the all-cycles partition),
    of which C13 proves that it agrees with the labels of `get_cycle_vector(return_good=True)`
    (`C13.container_flag_agrees`).  The `is_good` metric the container model's constructor stores —
    through `compute_cycle_metric`, cache on or off — is exactly that vector (True ↦ 1.0, False ↦ 0.0). -/
theorem init_is_good_is_quality_flag (g : Cycles.GoodCfg) (pstep thr : Rat) (cache : Bool) (ph : List Rat) :
    sget (init g pstep thr cache ph).1.metrics isGoodName =
      some ((Cycles.containerIsGood g pstep ph).map fun b => some (if b then 1 else 0)) :=
  ComposeContainer.init_isGood g pstep thr cache ph

end C15
