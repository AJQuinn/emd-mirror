/-
  C19 — array inputs are layout-insensitive, validated and never modified.
  Property theorems only (helper lemmas: Proofs/Lemmas/Support.lean).

  Model: EmdModel/Support.lean — the four `ensure_*` routines of emd/support.py on shapes.
  PARTIAL by nature: the theorems cover the accept / reject / normalise logic that every public
  entry point delegates to.  "No routine modifies its inputs", "accepted layouts give identical
  values", "read-only arrays are accepted" and "a repeated call is identical" are statements
  about Python objects with no counterpart in a pure model; they are decided by the
  `entry_points` instance check of harness/props/c19.py only.

  Clause by clause:
  1. "(n,), (n,1), (n,1,…) give identical results" — THEOREM for the normalised SHAPE
     (`ensure1d_accepts_iff`, `ensure1d_layout_insensitive`, `ensureVector_accepts_iff`,
     `ensure_preserves_size`); INSTANCE-ONLY for the identity of the VALUES the entry points return.
  2. "multi-column input to a single-signal routine is rejected" — THEOREM for the two validating
     normalisers (`ensure1d_rejects_iff`, `ensureVector_rejects_iff`); WHICH entry point applies WHICH
     normaliser to which argument is not modelled: the accept / reject verdict per public entry point is
     INSTANCE-ONLY (stream `entry_points`).  As read from the code (validated by that stream, not proved):
       ensure_1d_with_singleton: get_next_imf, sift, ensemble_sift, complete_ensemble_sift,
                                 get_next_imf_mask, mask_sift (X); get_cycle_vector_from_waveform (imf);
                                 bin_by_phase (weights)
       ensure_vector:            get_cycle_stat (values), phase_align (ip, x), bin_by_phase (ip),
                                 get_control_points (x), phase_from_control_points (cycles), Cycles (IP),
                                 every label vector passed as `cycles` (_ensure_cycle_inputs)
       ensure_2d only (rejects nothing, `ensure2d_spec`): frequency_transform, is_imf, normalised_waveform,
                                 sift_second_layer / mask_sift_second_layer (IA), hilberthuang, holospectrum,
                                 get_cycle_vector (phase, mask) — for these the rank is decided by downstream
                                 numpy errors, not by a theorem
       no normaliser at all:     interp_envelope, get_padded_extrema, compute_parabolic_extrema, emd.utils.*
       ensure_equal_dims:        hilberthuang and phase_align (dim=None: the prefix test below), holospectrum
                                 (dim=0 and dim=1), get_cycle_vector with a mask and bin_by_phase (dim=0)
  3. "mismatched array lengths are rejected" — THEOREM for the routine (`ensureEqualDims_axis_iff`,
     `ensureEqualDims_iff`, `ensureAll_iff`), with the caveat proved in `ensureEqualDims_is_prefix_test` /
     `ensureEqualDims_not_symmetric`: with `dim=None` the test is a prefix test relative to the FIRST array.
  4. "no routine modifies the arrays or option dictionaries", "read-only arrays accepted", "a repeated
     deterministic call is identical" — INSTANCE-ONLY (byte-level before/after comparison; DESIGN §12.4).
-/
import Proofs.Lemmas.Support
import Proofs.Lemmas.ComposeShapes

namespace C19
open Support

/-- `ensure_1d_with_singleton` accepts exactly a vector (n), a column (n,1) and a column with
    further trailing singletons (n,1,…,1), and normalises every one of them to (n,1).
    (A 0-d array is passed through untouched: it is not an array of samples.) -/
theorem ensure1d_accepts_iff (s t : Shape) :
    ensure1d s = .ok t ↔ (s = [] ∧ t = []) ∨ ∃ n k, s = n :: List.replicate k 1 ∧ t = [n, 1] := by
  match s with
  | [] => simp [ensure1d_nil]
  | n :: l =>
    rw [ensure1d_cons, ite_ok_eq_ok_iff, all_one_iff]
    simp [and_assoc]

/-- … and rejects every other shape with `ValueError`: rank ≥ 2 with some trailing dimension
    other than 1 — in particular two genuine columns (n,2) and a row (1,n). -/
theorem ensure1d_rejects_iff (s : Shape) (e : Err) :
    ensure1d s = .error e ↔ e = .valueError ∧ 2 ≤ s.length ∧ ∃ d ∈ s.drop 1, d ≠ 1 := by
  match s with
  | [] => simp [ensure1d_nil]
  | n :: l =>
    rw [ensure1d_cons, ite_ok_eq_error_iff, and_comm]
    refine and_congr_right fun _ => ?_
    simp only [List.all_eq_true, beq_iff_eq, Classical.not_forall, exists_prop, List.drop_one, List.tail_cons, ne_eq]
    -- a trailing axis that is not 1 is in particular a second axis
    exact ⟨fun ⟨d, hd, hne⟩ => ⟨Nat.succ_le_succ (List.length_pos_of_mem hd), d, hd, hne⟩, fun h => h.2⟩

/-- Layout-insensitivity of the normaliser: every accepted layout of an n-sample signal gives
    the same (n,1) column; two genuine columns, a row, and any n-d array whose second axis is not a
    singleton are rejected (a later non-singleton axis: `ensure1d_rejects_iff`). -/
theorem ensure1d_layout_insensitive (n k : Nat) :
    ensure1d (n :: List.replicate k 1) = .ok [n, 1] ∧
    (∀ c, c ≠ 1 → ensure1d [n, c] = .error .valueError) ∧
    (∀ c rest, c ≠ 1 → ensure1d (n :: c :: rest) = .error .valueError) := by
  refine ⟨?_, fun c hc => ?_, fun c rest hc => ?_⟩
  · rw [ensure1d_cons, if_pos ((all_one_iff _).mpr ⟨k, rfl⟩)]
  · simp [ensure1d_cons, hc]
  · simp [ensure1d_cons, hc]

/-- `ensure_vector` accepts exactly a vector (n) (unchanged) and a single column (n,1)
    (trimmed to (n)); 0-d arrays pass through. -/
theorem ensureVector_accepts_iff (s t : Shape) :
    ensureVector s = .ok t ↔ (s.length ≤ 1 ∧ t = s) ∨ ∃ n, s = [n, 1] ∧ t = [n] := by
  match s with
  | [] => simp [ensureVector_nil]
  | [n] => simpa [ensureVector_single] using eq_comm
  | [n, m] =>
    rw [ensureVector_pair, ite_ok_eq_ok_iff]
    simp [and_assoc]
  | n :: m :: r :: rest => simp [ensureVector_nd]

/-- … and rejects with `ValueError` exactly the 2-D arrays with more than one column and
    everything of rank 3 and above. -/
theorem ensureVector_rejects_iff (s : Shape) (e : Err) :
    ensureVector s = .error e ↔ e = .valueError ∧ ((∃ n m, s = [n, m] ∧ m ≠ 1) ∨ 3 ≤ s.length) := by
  match s with
  | [] => simp [ensureVector_nil]
  | [n] => simp [ensureVector_single]
  | [n, m] =>
    rw [ensureVector_pair, ite_ok_eq_error_iff, and_comm]
    simp [and_assoc]
  | n :: m :: r :: rest => simp [ensureVector_nd, eq_comm]

/-- `ensure_2d` rejects nothing: a vector gains a singleton second axis, everything else is
    returned as is; the result has rank ≥ 2 (unless 0-d) and the routine is idempotent. -/
theorem ensure2d_spec (s : Shape) :
    (s.length = 1 → ensure2d s = s ++ [1]) ∧ (s.length ≠ 1 → ensure2d s = s) ∧
    (s ≠ [] → 2 ≤ (ensure2d s).length) ∧ ensure2d (ensure2d s) = ensure2d s := by
  match s with
  | [] => simp [ensure2d]
  | [n] => simp [ensure2d]
  | n :: m :: rest => simp [ensure2d]

/-- `ensure_equal_dims(..., dim=d)`: accepted exactly when every array has axis `d` and all the
    lengths along it agree; `ValueError` exactly when every array has the axis and some length
    differs from the first array's (a missing axis is an `IndexError`). -/
theorem ensureEqualDims_axis_iff (s0 : Shape) (rest : List Shape) (d : Nat) :
    (ensureEqualDims (s0 :: rest) (some d) = .ok () ↔
      ∃ v, s0[d]? = some v ∧ ∀ s ∈ rest, s[d]? = some v) ∧
    (ensureEqualDims (s0 :: rest) (some d) = .error .valueError ↔
      ∃ v, s0[d]? = some v ∧ (∀ s ∈ rest, s[d]? ≠ none) ∧ ∃ s ∈ rest, s[d]? ≠ some v) := by
  refine ⟨(ensureEqualDims_ok_iff ..).trans List.forall_mem_singleton, ?_⟩
  rw [ensureEqualDims_some, verdict_valueError_iff]
  -- a missing axis is `s[d]? = none`; the rest is whether the first array has the axis
  have hnone (s : Shape) : s.length ≤ d ↔ s[d]? = none := List.getElem?_eq_none_iff.symm
  simp only [hnone, List.mem_cons, exists_eq_or_imp, not_or, not_exists, not_and, Classical.not_forall, exists_prop,
    ne_eq]
  cases s0[d]? with
  | none => simp only [not_true, false_and, reduceCtorEq, exists_false]
  | some v => simp only [reduceCtorEq, not_false_eq_true, true_and, Option.some.injEq, exists_eq_left']

/-- `ensure_equal_dims(..., dim=None)` compares along all the axes of the FIRST array: accepted
    exactly when the first shape is a prefix of every other shape — so, for arrays of equal
    rank, exactly when all shapes are equal. -/
theorem ensureEqualDims_iff (s0 : Shape) (rest : List Shape) :
    (ensureEqualDims (s0 :: rest) none = .ok () ↔
      ∀ s ∈ rest, s0.length ≤ s.length ∧ s.take s0.length = s0) ∧
    ((∀ s ∈ rest, s.length = s0.length) →
      (ensureEqualDims (s0 :: rest) none = .ok () ↔ ∀ s ∈ rest, s = s0)) := by
  have main : ensureEqualDims (s0 :: rest) none = .ok () ↔
      ∀ s ∈ rest, s0.length ≤ s.length ∧ s.take s0.length = s0 := by
    simp only [ensureEqualDims_none, verdict_ok_iff, not_exists, not_and, Nat.not_lt, ← forall_and]
  refine ⟨main, fun hlen => main.trans (forall_congr' fun s => forall_congr' fun hs => ?_)⟩
  rw [← hlen s hs, List.take_length]
  simp

/-- **No input passes with a mismatch** — one statement for both forms of the `dim` argument.  Let the compared
    axes be `dimsOf s0 dim` (all axes of the first array for `dim=None`, the single axis `d` for `dim=d`).  The
    call is accepted if and only if along EVERY compared axis the first array has a length and EVERY other array
    has that same length; so whenever some array differs from the first along some compared axis (or lacks the
    axis) the call raises — there is no list of arrays, no position of the odd one out and no `dim` for which a
    mismatch is let through. -/
theorem ensureEqualDims_rejects_every_mismatch (s0 : Shape) (rest : List Shape) (dim : Option Nat) :
    (ensureEqualDims (s0 :: rest) dim = .ok () ↔
      ∀ ax ∈ dimsOf s0 dim, ∃ v, s0[ax]? = some v ∧ ∀ s ∈ rest, s[ax]? = some v) ∧
    (∀ s ∈ rest, ∀ ax ∈ dimsOf s0 dim, s[ax]? ≠ s0[ax]? →
      ∃ e, ensureEqualDims (s0 :: rest) dim = .error e) := by
  refine ⟨ensureEqualDims_ok_iff s0 rest dim, fun s hs ax hax hne => ?_⟩
  cases hr : ensureEqualDims (s0 :: rest) dim with
  | error e => exact ⟨e, rfl⟩
  | ok u =>
    obtain ⟨v, hv0, hv⟩ := (ensureEqualDims_ok_iff s0 rest dim).mp hr ax hax
    exact absurd (by rw [hv s hs, hv0]) hne

/-- Two arrays, `dim=None`: the complete case analysis.  The second shape is only looked at along the
    axes of the FIRST one: too few axes → IndexError (from `np.array(x.shape)[dim]`), enough axes but a
    different leading part → ValueError, otherwise accepted — whatever further axes it has. -/
theorem ensureEqualDims_pair (a b : Shape) :
    ensureEqualDims [a, b] none =
      if b.length < a.length then .error .indexError
      else if b.take a.length = a then .ok () else .error .valueError := by
  simp [ensureEqualDims_none]

/-- `ensure_equal_dims(dim=None)` is a PREFIX test relative to the first array, not an equality test:
    `[a, b]` is accepted exactly when `a` is a prefix of `b`. -/
theorem ensureEqualDims_is_prefix_test (a b : Shape) :
    ensureEqualDims [a, b] none = .ok () ↔ a <+: b := by
  rw [(ensureEqualDims_iff a [b]).1, List.prefix_iff_eq_take]
  simp only [List.mem_singleton, forall_eq, eq_comm (a := a)]
  exact and_iff_right_of_imp fun h => by rw [← h]; exact List.length_take_le' ..

/-- … and therefore ASYMMETRIC: whenever the accepted pair is not a pair of equal shapes, the same two
    arrays in the other order are rejected (IndexError: the shorter shape lacks an axis of the first).
    "Mismatched array lengths are rejected" is thus guaranteed only along the axes of the first array. -/
theorem ensureEqualDims_not_symmetric (a b : Shape) (h : ensureEqualDims [a, b] none = .ok ()) (hne : a ≠ b) :
    ensureEqualDims [b, a] none = .error .indexError := by
  obtain ⟨t, rfl⟩ := (ensureEqualDims_is_prefix_test a b).1 h
  have hl : 0 < t.length := List.length_pos_iff.mpr fun e => hne (by simp [e])
  rw [ensureEqualDims_pair, if_pos (by rw [List.length_append]; omega)]

/-- the witness checked against the real code (c19.py, stream `ensure_lists`): (7,2) then (7,2,3) is accepted,
    (7,2,3) then (7,2) raises IndexError; (7,2) then (6,2,3) raises ValueError, (6,2,3) then (7,2) IndexError -/
theorem ensureEqualDims_swap_witness :
    ensureEqualDims [[7, 2], [7, 2, 3]] none = .ok () ∧
    ensureEqualDims [[7, 2, 3], [7, 2]] none = .error .indexError ∧
    ensureEqualDims [[7, 2], [6, 2, 3]] none = .error .valueError ∧
    ensureEqualDims [[6, 2, 3], [7, 2]] none = .error .indexError := ⟨rfl, rfl, rfl, rfl⟩

/-- Calls with several arrays (`ensure_1d_with_singleton([a, b], …)`): accepted exactly when
    every array is, with the normalised shapes returned in order; rejected as soon as one array
    is — for both validating normalisers. -/
theorem ensureAll_iff (ss ts : List Shape) :
    (ensure1dAll ss = .ok ts ↔ ts.length = ss.length ∧ ∀ p ∈ ss.zip ts, ensure1d p.1 = .ok p.2) ∧
    ((∃ e, ensure1dAll ss = .error e) ↔ ∃ s ∈ ss, ∃ e, ensure1d s = .error e) ∧
    (ensureVectorAll ss = .ok ts ↔ ts.length = ss.length ∧ ∀ p ∈ ss.zip ts, ensureVector p.1 = .ok p.2) ∧
    ((∃ e, ensureVectorAll ss = .error e) ↔ ∃ s ∈ ss, ∃ e, ensureVector s = .error e) :=
  ⟨allOk_ok_iff _ _ _, allOk_error_iff _ _, allOk_ok_iff _ _ _, allOk_error_iff _ _⟩

/-- No normaliser drops or duplicates data: the number of elements is preserved. -/
theorem ensure_preserves_size (s t : Shape) :
    (ensure1d s = .ok t → numel t = numel s) ∧ (ensureVector s = .ok t → numel t = numel s) ∧
    numel (ensure2d s) = numel s := by
  refine ⟨?_, ?_, ?_⟩
  · intro h
    rcases (ensure1d_accepts_iff s t).1 h with ⟨rfl, rfl⟩ | ⟨n, k, rfl, rfl⟩
    · rfl
    · rw [numel_cons, numel_cons, numel_cons, numel_replicate_one]; simp [numel]
  · intro h
    rcases (ensureVector_accepts_iff s t).1 h with ⟨_, rfl⟩ | ⟨n, rfl, rfl⟩
    · rfl
    · simp [numel]
  · unfold ensure2d; split
    · exact numel_append_one s
    · rfl

/-! ### The pinned routines violate the statements above (DESIGN §9-D15); kept as witnesses. -/

/-- pinned `ensure_1d_with_singleton`: two genuine columns and a row are accepted untouched -/
theorem ensure1d_two_columns_current (n c : Nat) :
    ensure1dPinned [n, c] = .ok [n, c] := by
  simp [ensure1dPinned]

/-- pinned: `np.squeeze` also removes the sample axis of a one-sample signal -/
theorem ensure1d_one_sample_current : ensure1dPinned [1, 1, 1] = .error .indexError := rfl

/-- pinned `ensure_vector`: (n,1,k) is "trimmed" to the matrix (n,k) instead of being rejected -/
theorem ensureVector_nd_current (n k : Nat) : ensureVectorPinned [n, 1, k] = .ok [n, k] := by
  simp [ensureVectorPinned]

/-! ### Non-vacuity -/
example : ensure1d [7, 1, 1] = .ok [7, 1] := (ensure1d_layout_insensitive 7 2).1
example : ensure1d [7, 2] = .error .valueError := (ensure1d_layout_insensitive 7 0).2.1 2 (by decide)
example : ensure1d [1, 7] = .error .valueError := (ensure1d_layout_insensitive 1 0).2.1 7 (by decide)
example : ensureVector [7, 1] = .ok [7] := rfl
example : ensureVector [7, 1, 3] = .error .valueError := rfl
example : ensure1dAll [[7], [7, 1, 1]] = .ok [[7, 1], [7, 1]] := rfl
example : ensure1dAll [[7], [7, 2]] = .error .valueError := rfl
example : ensureEqualDims [[7, 2], [7, 2, 3]] none = .ok () := rfl
example : ensureEqualDims [[7, 1], [6, 1]] (some 0) = .error .valueError := rfl
example : ensureEqualDims [[7], [7, 2], []] (some 0) = .error .indexError := rfl

/-! ### Link to the spectra model (C10 / C11)

`EmdModel/Spectra.lean` carries its own copies of `ensure_2d` and `ensure_equal_dims` (`ensure2d`,
`equalDimsAll`, `equalDimsAt`, applied to the two / three shapes handed to `hilberthuang` and
`holospectrum`).  They are the routines of this model (outcome `none` = IndexError, `some false` =
ValueError, `some true` = accepted), so the accept / reject theorems above hold of the shape checks the
spectra model performs. -/
theorem spectra_shape_checks_are_support_routines :
    (∀ s, Spectra.ensure2d s = ensure2d s) ∧
    (∀ ss, ComposeShapes.toExcept (Spectra.equalDimsAll ss) = ensureEqualDims ss none) ∧
    (∀ ss d, ComposeShapes.toExcept (Spectra.equalDimsAt ss d) = ensureEqualDims ss (some d)) :=
  ⟨ComposeShapes.ensure2d_agree, ComposeShapes.equalDimsAll_agree, ComposeShapes.equalDimsAt_agree⟩

/-- The empty list of arrays (`ensure_equal_dims([], [], f, dim)`): IndexError for `dim=None`, silent pass
    for a given `dim` — as the code does. -/
theorem ensure_equal_dims_empty_list :
    ensureEqualDims [] none = .error .indexError ∧ ∀ d, ensureEqualDims [] (some d) = .ok () :=
  ⟨rfl, fun _ => rfl⟩

example : ComposeShapes.toExcept (Spectra.equalDimsAt [[7, 2], [7, 2, 3], [6, 2, 3]] 0) = .error .valueError := rfl
example : ComposeShapes.toExcept (Spectra.equalDimsAll [[7, 2], [7]]) = .error .indexError := rfl

-- `ensureEqualDims_rejects_every_mismatch`: the odd one out in the LAST position, along the last compared axis, is caught
-- (dim=None and dim=1), and a list without a mismatch passes
example : ensureEqualDims [[7, 2], [7, 2], [7, 3]] none = .error .valueError := rfl
example : ensureEqualDims [[7, 2], [7, 2], [7, 3]] (some 1) = .error .valueError := rfl
example : ensureEqualDims [[7, 2], [7, 2], [7, 2]] none = .ok () := rfl
example : ([7, 3] : Shape)[1]? ≠ ([7, 2] : Shape)[1]? := by decide

end C19
