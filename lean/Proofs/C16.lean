/-
  C16 — sample, cycle, subset and chain index maps are mutually consistent.
  Property theorems only (helper lemmas: Proofs/Lemmas/Maps*.lean).

  Setting of every theorem: `cv` a well-formed cycle vector with K = |valids| cycles
  (`WF cv valids.length`: labels 0..K-1 as contiguous ordered blocks, -1 gaps anywhere),
  `sv = subsetVector valids`, `ch = chainVector sv` — the two constructors are themselves
  characterised first.  "Existing" indices: sample i < |cv|, cycle k < K,
  subset cycle j < S = #selected, chain c < C = max(ch)+1 (as the implementation counts).
-/
import Proofs.Lemmas.MapsIndex
import Proofs.Lemmas.MapsCycles

namespace C16
open Maps

/-! ## the constructors -/

theorem subsetVector_length (valids : List Bool) :
    (subsetVector valids).length = valids.length := subsetFrom_length 0 valids

/-- entry k is the rank of cycle k among the selected cycles, -1 when it is not selected -/
theorem subsetVector_spec (valids : List Bool) (k : Nat) (hk : k < valids.length) :
    (subsetVector valids)[k]? =
      some (if valids[k]! then (((valids.take k).count true : Nat) : Int) else -1) := by
  rw [subsetVector, subsetFrom_getElem?]
  simp [List.getElem?_eq_getElem hk, getElem!_pos valids k hk]

/-- the number of subset cycles the implementation computes (max+1) is the number selected -/
theorem subsetVector_size (valids : List Bool) :
    nLabels (subsetVector valids) = valids.count true := by
  refine nLabels_eq (fun l hl => ?_) fun j hj => List.mem_of_getElem? (subset_lookup_iff.mpr ⟨hj, rfl⟩)
  obtain ⟨k, hk⟩ := List.mem_iff_getElem?.mp hl
  by_cases h : l < 0
  · omega
  · have := (subset_lookup_iff (j := l.toNat).mp (by rw [Int.toNat_of_nonneg (by omega)]; exact hk)).1
    omega

/-- every existing subset index names exactly one cycle, and that cycle carries it;
    indices beyond the subset name none -/
theorem subsetVector_unique (valids : List Bool) (j : Nat) :
    (j < valids.count true →
      ∃ k, mapSubsetToCycle (subsetVector valids) j = [k] ∧ (subsetVector valids)[k]? = some (j : Int)) ∧
    (valids.count true ≤ j → mapSubsetToCycle (subsetVector valids) j = []) :=
  ⟨fun hj => ⟨_, subset_singleton hj, subset_lookup_iff.mpr ⟨hj, rfl⟩⟩, subset_none_of_ge⟩

/-- **Integer flags select exactly like booleans** (seeded change C16-6: `subset_vect[~valids] = -1` on 0/1
    integers).  `subsetVectorFlags` is `get_subset_vector` on a numeric selection vector as the loop reads it
    (`valids[ii] == 0`).  For EVERY integer vector it is the subset vector of the Boolean vector "flag ≠ 0";
    in particular for the 0/1 integer coding of a Boolean selection (the library's own `is_good` metric,
    anything stored with `dtype=int`) it is the subset vector of that selection — so every theorem of this
    file about `subsetVector valids`, `chainVector (subsetVector valids)` and the maps built on them holds
    verbatim for the integer-coded selection. -/
theorem integer_flags_select_like_booleans :
    (∀ flags : List Int, subsetVectorFlags flags = subsetVector (flags.map fun x => decide (x ≠ 0))) ∧
    (∀ valids : List Bool, subsetVectorFlags (valids.map fun b => if b then 1 else 0) = subsetVector valids) := by
  refine ⟨subsetFromFlags_eq 0, fun valids => ?_⟩
  rw [subsetVectorFlags, subsetFromFlags_eq, List.map_map]
  congr 1
  exact List.map_id'' (fun b => by cases b <;> simp) valids

/-- spelled out on the integer flags themselves: entry k of the subset vector is the number of non-zero flags
    before k when flag k is non-zero and -1 when it is 0 — at every position (seeded change C16-6 writes -1 at the
    last two positions only) -/
theorem integer_flags_spec (flags : List Int) (k : Nat) (hk : k < flags.length) :
    (subsetVectorFlags flags)[k]? =
      some (if flags[k]! ≠ 0 then ((((flags.take k).filter (· ≠ 0)).length : Nat) : Int) else -1) := by
  rw [integer_flags_select_like_booleans.1, subsetVector_spec _ k (by simpa using hk)]
  simp [getElem!_pos, hk, ← List.map_take, List.count_eq_countP, List.countP_eq_length_filter, List.filter_map,
    Function.comp_def]

/-- one chain entry per subset cycle -/
theorem chainVector_length (valids : List Bool) :
    (chainVector (subsetVector valids)).length = valids.count true := by
  rw [Maps.chainVector_length, selected_subsetVector_length]

/-- chains are the maximal runs of consecutive selected cycles, numbered in order: the first
    subset cycle opens chain 0; subset cycle m+1 stays in the chain of m exactly when the two
    are neighbouring cycles, and opens the next chain otherwise -/
theorem chainVector_runs (valids : List Bool) :
    (0 < valids.count true → (chainVector (subsetVector valids))[0]? = some 0) ∧
    ∀ (m : Nat) (x : Int), m + 1 < valids.count true →
      (chainVector (subsetVector valids))[m]? = some x →
      (chainVector (subsetVector valids))[m + 1]? =
        some (if cycleOf (subsetVector valids) (m + 1) = cycleOf (subsetVector valids) m + 1
              then x else x + 1) := by
  refine ⟨fun h => chainVector_head _ (List.ne_nil_of_length_pos ?_), fun m x hm hx => ?_⟩
  · rwa [selected_subsetVector_length]
  · exact chainVector_rec (selected_cycleOf (by omega)) (selected_cycleOf hm) hx

/-- declaratively: chain numbers never decrease along the subset, and two subset cycles p and p+d
    share a chain exactly when the cycle index advanced by exactly d, i.e. when every cycle between
    them is selected too — chains are the MAXIMAL runs of consecutive selected cycles -/
theorem chainVector_same_chain_iff (valids : List Bool) (p d : Nat) (hq : p + d < valids.count true)
    (x y : Int) (hx : (chainVector (subsetVector valids))[p]? = some x)
    (hy : (chainVector (subsetVector valids))[p + d]? = some y) :
    x ≤ y ∧ (y = x ↔ cycleOf (subsetVector valids) (p + d) = cycleOf (subsetVector valids) p + d) := by
  obtain ⟨h1, _, h3⟩ := chain_gap (selected_cycleOf (by omega)) (selected_cycleOf hq) hx hy
  exact ⟨h1, h3⟩

/-- chain numbers are exactly 0..C-1: non-negative, below C = max+1, none skipped -/
theorem chainVector_range (valids : List Bool) :
    (∀ x ∈ chainVector (subsetVector valids),
      0 ≤ x ∧ x < (nLabels (chainVector (subsetVector valids)) : Int)) ∧
    (∀ c, c < nLabels (chainVector (subsetVector valids)) →
      (c : Int) ∈ chainVector (subsetVector valids)) := by
  refine ⟨fun x hx => ?_, fun c hc => chainVector_occurs hc⟩
  have h0 := chainVector_nonneg hx
  have := toNat_lt_nLabels h0 hx
  omega

/-! ## totality: every map is defined on every existing index -/

theorem total_sample_to_cycle (cv : List Int) (i : Nat) (hi : i < cv.length) :
    ∃ r, mapSampleToCycle cv i = .ok r := lookupLabel_total hi

theorem total_cycle_to_samples (cv : List Int) (K k : Nat) (hwf : WF cv K) (hk : k < K) :
    mapCycleToSamples cv k ≠ [] := whereEq_ne_nil (hwf.occurs k hk)

theorem total_subset_to_cycle (valids : List Bool) (j : Nat) (hj : j < valids.count true) :
    ∃ k, mapSubsetToCycle (subsetVector valids) j = [k] ∧ k < valids.length :=
  ⟨_, subset_singleton hj, cycleOf_lt hj⟩

theorem total_cycle_to_subset (valids : List Bool) (k : Nat) (hk : k < valids.length) :
    ∃ r, mapCycleToSubset (subsetVector valids) k = .ok r :=
  lookupLabel_total (by rw [subsetVector_length]; exact hk)

theorem total_subset_to_sample (cv : List Int) (valids : List Bool) (hwf : WF cv valids.length)
    (j : Nat) (hj : j < valids.count true) :
    ∃ s, mapSubsetToSample (subsetVector valids) cv j = .ok s ∧ s ≠ [] :=
  ⟨_, mapSubsetToSample_eq hj, whereEq_ne_nil (hwf.occurs _ (cycleOf_lt hj))⟩

theorem total_sample_to_subset (cv : List Int) (valids : List Bool) (hwf : WF cv valids.length)
    (i : Nat) (hi : i < cv.length) :
    ∃ r, mapSampleToSubset (subsetVector valids) cv i = .ok r := by
  rw [mapSampleToSubset_eq]
  exact andThen_total (total_sample_to_cycle cv i hi) fun k hk =>
    total_cycle_to_subset valids k (hwf.lt (lookupLabel_some.mp hk))

theorem total_chain_to_subset (valids : List Bool) (c : Nat)
    (hc : c < nLabels (chainVector (subsetVector valids))) :
    mapChainToSubset (chainVector (subsetVector valids)) c ≠ [] :=
  whereEq_ne_nil ((chainVector_range valids).2 c hc)

theorem total_subset_to_chain (valids : List Bool) (j : Nat) (hj : j < valids.count true) :
    ∃ c, mapSubsetToChain (chainVector (subsetVector valids)) j = .ok c ∧
      0 ≤ c ∧ c.toNat < nLabels (chainVector (subsetVector valids)) := by
  have hl := List.getElem?_eq_getElem (show j < (chainVector (subsetVector valids)).length by rwa [chainVector_length])
  exact ⟨_, mapSubsetToChain_ok.mpr hl, (chain_lookup hl).1, (chain_lookup hl).2⟩

theorem total_cycle_to_chain (valids : List Bool) (k : Nat) (hk : k < valids.length) :
    ∃ r, mapCycleToChain (chainVector (subsetVector valids)) (subsetVector valids) k = .ok r := by
  rw [mapCycleToChain_eq]
  refine andThen_total (total_cycle_to_subset valids k hk) fun j hj => chainStage_total ?_
  rw [chainVector_length]
  exact (subset_lookup_iff.mp (lookupLabel_some.mp hj)).1

/-- the cycles of an existing chain: one per subset cycle of the chain -/
theorem total_chain_to_cycle (valids : List Bool) (c : Nat) :
    mapChainToCycle (chainVector (subsetVector valids)) (subsetVector valids) c =
      .ok ((mapChainToSubset (chainVector (subsetVector valids)) c).map (cycleOf (subsetVector valids))) := by
  unfold mapChainToCycle
  rw [singletons?_map]
  · simp [List.map_map, Function.comp_def, cycleOf, mapSubsetToCycle]
  · intro l hl
    obtain ⟨j, hj, rfl⟩ := List.mem_map.mp hl
    exact ⟨_, subset_singleton (mem_chain_lt hj)⟩

theorem total_chain_to_samples (cv : List Int) (valids : List Bool) (hwf : WF cv valids.length)
    (c : Nat) (hc : c < nLabels (chainVector (subsetVector valids))) :
    ∃ s, mapChainToSamples (chainVector (subsetVector valids)) (subsetVector valids) cv c = .ok s ∧
      s = (mapChainToSubset (chainVector (subsetVector valids)) c).flatMap
            (fun j => mapCycleToSamples cv (cycleOf (subsetVector valids) j)) ∧ s ≠ [] := by
  have hne := total_chain_to_subset valids c hc
  refine ⟨_, ?_, rfl, fun h => ?_⟩
  · unfold mapChainToSamples
    split
    · rename_i h; exact absurd h hne
    · exact collect_map fun j hj => mapSubsetToSample_eq (mem_chain_lt hj)
  · obtain ⟨j, hj⟩ := List.exists_mem_of_ne_nil _ hne
    exact whereEq_ne_nil (hwf.occurs _ (cycleOf_lt (mem_chain_lt hj)))
      (List.flatMap_eq_nil_iff.mp h j hj)

theorem total_sample_to_chain (cv : List Int) (valids : List Bool) (hwf : WF cv valids.length)
    (i : Nat) (hi : i < cv.length) :
    ∃ r, mapSampleToChain (chainVector (subsetVector valids)) (subsetVector valids) cv i = .ok r := by
  rw [mapSampleToChain_eq]
  refine andThen_total (total_sample_to_subset cv valids hwf i hi) fun j hj => chainStage_total ?_
  obtain ⟨k, -, h2⟩ := mapSampleToSubset_some.mp hj
  rw [chainVector_length]
  exact (subset_lookup_iff.mp h2).1

/-! ## exactness: a back map returns EXACTLY the items whose forward map is its argument

The full characterisation `x ∈ back y ↔ forward x = y`, so the back maps contain nothing else; the round trips
further down are its two inclusions. -/

/-- the samples of cycle k are exactly the samples whose cycle is k (any label vector) -/
theorem exact_cycle_to_samples (cv : List Int) (k i : Nat) :
    i ∈ mapCycleToSamples cv k ↔ mapSampleToCycle cv i = .ok (some k) :=
  mem_whereEq.trans lookupLabel_some.symm

/-- …in terms of the label vector itself: `i ∈ map_cycle_to_samples(cv, k) ↔ cv[i] = k` -/
theorem exact_cycle_to_samples_label (cv : List Int) (k i : Nat) :
    i ∈ mapCycleToSamples cv k ↔ cv[i]? = some (k : Int) := mem_whereEq

/-- the cycles of subset index j are exactly the cycles whose subset index is j: `c ∈ … ↔ sv[c] = j` -/
theorem exact_subset_to_cycle (sv : List Int) (j k : Nat) :
    (k ∈ mapSubsetToCycle sv j ↔ mapCycleToSubset sv k = .ok (some j)) ∧
    (k ∈ mapSubsetToCycle sv j ↔ sv[k]? = some (j : Int)) :=
  ⟨mem_whereEq.trans lookupLabel_some.symm, mem_whereEq⟩

/-- the subset cycles of chain c are exactly those whose chain is c -/
theorem exact_chain_to_subset (ch : List Int) (c j : Nat) :
    j ∈ mapChainToSubset ch c ↔ mapSubsetToChain ch j = .ok (c : Int) :=
  mem_whereEq.trans mapSubsetToChain_ok.symm

/-- the samples of subset cycle j (an existing one) are exactly the samples whose subset cycle is j -/
theorem exact_subset_to_sample (cv : List Int) (valids : List Bool) (j : Nat) (hj : j < valids.count true) :
    ∃ s, mapSubsetToSample (subsetVector valids) cv j = .ok s ∧
      ∀ i, i ∈ s ↔ mapSampleToSubset (subsetVector valids) cv i = .ok (some j) :=
  ⟨_, mapSubsetToSample_eq hj, fun _ => mem_samples_cycleOf_iff hj⟩

/-- the cycles of chain c are exactly the cycles whose chain is c -/
theorem exact_chain_to_cycle (valids : List Bool) (c : Nat) :
    ∃ ks, mapChainToCycle (chainVector (subsetVector valids)) (subsetVector valids) c = .ok ks ∧
      ∀ k, k ∈ ks ↔ mapCycleToChain (chainVector (subsetVector valids)) (subsetVector valids) k = .ok (some (c : Int)) := by
  refine ⟨_, total_chain_to_cycle valids c, fun k => ?_⟩
  rw [List.map_eq_flatMap]
  refine mem_flatMap_chain_iff (mapCycleToSubset (subsetVector valids) k) fun j hj => ?_
  simpa [mapCycleToSubset, lookupLabel_some, subset_lookup_iff, mem_chain_lt hj] using eq_comm

/-- the samples of chain c (an existing one) are exactly the samples whose chain is c:
    `i ∈ map_chain_to_samples(…, c) ↔ map_sample_to_chain(…, i) = c` -/
theorem exact_chain_to_samples (cv : List Int) (valids : List Bool) (hwf : WF cv valids.length)
    (c : Nat) (hc : c < nLabels (chainVector (subsetVector valids))) :
    ∃ s, mapChainToSamples (chainVector (subsetVector valids)) (subsetVector valids) cv c = .ok s ∧
      ∀ i, i ∈ s ↔
        mapSampleToChain (chainVector (subsetVector valids)) (subsetVector valids) cv i = .ok (some (c : Int)) := by
  obtain ⟨s, hs, rfl, -⟩ := total_chain_to_samples cv valids hwf c hc
  exact ⟨_, hs, fun i => mem_flatMap_chain_iff (mapSampleToSubset (subsetVector valids) cv i) fun j hj =>
    mem_samples_cycleOf_iff (mem_chain_lt hj)⟩

/-! ## round trips: the original item is among the items its image maps back to -/

theorem roundtrip_sample_cycle (cv : List Int) (i k : Nat)
    (h : mapSampleToCycle cv i = .ok (some k)) : i ∈ mapCycleToSamples cv k :=
  (exact_cycle_to_samples cv k i).mpr h

theorem roundtrip_cycle_subset (sv : List Int) (k j : Nat)
    (h : mapCycleToSubset sv k = .ok (some j)) : k ∈ mapSubsetToCycle sv j :=
  (exact_subset_to_cycle sv j k).1.mpr h

theorem roundtrip_subset_chain (ch : List Int) (j : Nat) (c : Int)
    (h : mapSubsetToChain ch j = .ok c) (h0 : 0 ≤ c) : j ∈ mapChainToSubset ch c.toNat :=
  (exact_chain_to_subset ch c.toNat j).mpr (by rwa [Int.toNat_of_nonneg h0])

theorem roundtrip_sample_subset (cv : List Int) (valids : List Bool) (i j : Nat)
    (h : mapSampleToSubset (subsetVector valids) cv i = .ok (some j)) :
    ∃ s, mapSubsetToSample (subsetVector valids) cv j = .ok s ∧ i ∈ s := by
  obtain ⟨k, -, h2⟩ := mapSampleToSubset_some.mp h
  obtain ⟨s, hs, he⟩ := exact_subset_to_sample cv valids j (subset_lookup_iff.mp h2).1
  exact ⟨s, hs, (he i).mpr h⟩

theorem roundtrip_cycle_chain (valids : List Bool) (k : Nat) (c : Int)
    (h : mapCycleToChain (chainVector (subsetVector valids)) (subsetVector valids) k = .ok (some c)) :
    0 ≤ c ∧ ∃ ks, mapChainToCycle (chainVector (subsetVector valids)) (subsetVector valids) c.toNat = .ok ks ∧
      k ∈ ks := by
  obtain ⟨j, -, h2⟩ := mapCycleToChain_some.mp h
  have h0 := (chain_lookup h2).1
  obtain ⟨ks, hks, he⟩ := exact_chain_to_cycle valids c.toNat
  exact ⟨h0, ks, hks, (he k).mpr (by rwa [Int.toNat_of_nonneg h0])⟩

theorem roundtrip_sample_chain (cv : List Int) (valids : List Bool) (hwf : WF cv valids.length)
    (i : Nat) (c : Int)
    (h : mapSampleToChain (chainVector (subsetVector valids)) (subsetVector valids) cv i = .ok (some c)) :
    0 ≤ c ∧ ∃ s, mapChainToSamples (chainVector (subsetVector valids)) (subsetVector valids) cv c.toNat = .ok s ∧
      i ∈ s := by
  obtain ⟨k, j, -, -, h3⟩ := mapSampleToChain_some.mp h
  obtain ⟨h0, hlt⟩ := chain_lookup h3
  obtain ⟨s, hs, he⟩ := exact_chain_to_samples cv valids hwf c.toNat hlt
  exact ⟨h0, s, hs, (he i).mpr (by rwa [Int.toNat_of_nonneg h0])⟩

/-- converse round trips: every item a back map returns maps forward to the argument -/
theorem roundtrip_back_forth (cv : List Int) (valids : List Bool) (hwf : WF cv valids.length) :
    (∀ k, ∀ i ∈ mapCycleToSamples cv k, mapSampleToCycle cv i = .ok (some k)) ∧
    (∀ j, ∀ k ∈ mapSubsetToCycle (subsetVector valids) j, mapCycleToSubset (subsetVector valids) k = .ok (some j)) ∧
    (∀ c, ∀ j ∈ mapChainToSubset (chainVector (subsetVector valids)) c,
      mapSubsetToChain (chainVector (subsetVector valids)) j = .ok (c : Int)) ∧
    (∀ c, c < nLabels (chainVector (subsetVector valids)) → ∀ s,
      mapChainToSamples (chainVector (subsetVector valids)) (subsetVector valids) cv c = .ok s → ∀ i ∈ s,
        mapSampleToChain (chainVector (subsetVector valids)) (subsetVector valids) cv i = .ok (some (c : Int))) := by
  refine ⟨fun k i hi => (exact_cycle_to_samples cv k i).mp hi, fun j k hk => (exact_subset_to_cycle _ j k).1.mp hk,
    fun c j hj => (exact_chain_to_subset _ c j).mp hj, ?_⟩
  intro c hc s hs i hi
  obtain ⟨s', hs', h⟩ := exact_chain_to_samples cv valids hwf c hc
  cases hs.symm.trans hs'
  exact (h i).mp hi

/-! ## the forward maps answer `none` exactly for unlabelled samples and unselected cycles -/

theorem none_iff_sample_to_cycle (cv : List Int) (K : Nat) (hwf : WF cv K) (i : Nat) :
    mapSampleToCycle cv i = .ok none ↔ cv[i]? = some (-1) := by
  rw [mapSampleToCycle, lookupLabel_none]
  constructor
  · rintro ⟨l, h1, h2⟩
    have := (hwf.range l (List.mem_of_getElem? h1)).1
    rwa [show l = -1 by omega] at h1
  · intro h; exact ⟨-1, h, by omega⟩

theorem none_iff_cycle_to_subset (valids : List Bool) (k : Nat) (hk : k < valids.length) :
    mapCycleToSubset (subsetVector valids) k = .ok none ↔ valids[k]! = false := by
  rw [mapCycleToSubset, lookupLabel_none, subsetVector_spec valids k hk]
  cases valids[k]! <;> simp <;> omega

theorem none_iff_sample_to_subset (cv : List Int) (valids : List Bool) (hwf : WF cv valids.length)
    (i : Nat) :
    mapSampleToSubset (subsetVector valids) cv i = .ok none ↔
      cv[i]? = some (-1) ∨ ∃ k : Nat, cv[i]? = some (k : Int) ∧ valids[k]! = false := by
  rw [mapSampleToSubset_eq, andThen_eq_ok, none_iff_sample_to_cycle cv _ hwf, and_iff_left rfl]
  refine or_congr Iff.rfl (exists_congr fun k => ?_)
  rw [mapSampleToCycle, lookupLabel_some]
  exact and_congr_right fun h1 => none_iff_cycle_to_subset valids k (hwf.lt h1)

theorem none_iff_cycle_to_chain (valids : List Bool) (k : Nat) (hk : k < valids.length) :
    mapCycleToChain (chainVector (subsetVector valids)) (subsetVector valids) k = .ok none ↔
      valids[k]! = false := by
  rw [mapCycleToChain_none, ← lookupLabel_none]
  exact none_iff_cycle_to_subset valids k hk

theorem none_iff_sample_to_chain (cv : List Int) (valids : List Bool) (hwf : WF cv valids.length)
    (i : Nat) :
    mapSampleToChain (chainVector (subsetVector valids)) (subsetVector valids) cv i = .ok none ↔
      cv[i]? = some (-1) ∨ ∃ k : Nat, cv[i]? = some (k : Int) ∧ valids[k]! = false := by
  rw [mapSampleToChain_none]; exact none_iff_sample_to_subset cv valids hwf i

/-- summary: for every existing sample i with cycle label l and every existing cycle k, each forward
    map answers `none` exactly when the item is an unlabelled sample / (a sample of) an unselected
    cycle; the subset→chain map never answers none (every subset cycle lies in a chain) -/
theorem forward_none_iff (cv : List Int) (valids : List Bool) (hwf : WF cv valids.length) :
    (∀ i, mapSampleToCycle cv i = .ok none ↔ cv[i]? = some (-1)) ∧
    (∀ k, k < valids.length →
      (mapCycleToSubset (subsetVector valids) k = .ok none ↔ valids[k]! = false)) ∧
    (∀ i, mapSampleToSubset (subsetVector valids) cv i = .ok none ↔
      cv[i]? = some (-1) ∨ ∃ k : Nat, cv[i]? = some (k : Int) ∧ valids[k]! = false) ∧
    (∀ k, k < valids.length →
      (mapCycleToChain (chainVector (subsetVector valids)) (subsetVector valids) k = .ok none ↔
        valids[k]! = false)) ∧
    (∀ i, mapSampleToChain (chainVector (subsetVector valids)) (subsetVector valids) cv i = .ok none ↔
      cv[i]? = some (-1) ∨ ∃ k : Nat, cv[i]? = some (k : Int) ∧ valids[k]! = false) ∧
    (∀ j, j < valids.count true →
      ∃ c, mapSubsetToChain (chainVector (subsetVector valids)) j = .ok c ∧ 0 ≤ c) :=
  ⟨fun i => none_iff_sample_to_cycle cv _ hwf i,
   fun k hk => none_iff_cycle_to_subset valids k hk,
   fun i => none_iff_sample_to_subset cv valids hwf i,
   fun k hk => none_iff_cycle_to_chain valids k hk,
   fun i => none_iff_sample_to_chain cv valids hwf i,
   fun j hj => by
     obtain ⟨c, h1, h2, _⟩ := total_subset_to_chain valids j hj
     exact ⟨c, h1, h2⟩⟩

/-! ## projections: each value lands on exactly the items that map to it, NaN elsewhere -/

theorem project_cycles_to_samples (vals : Vals) (cv : List Int) (i : Nat) (r : Option Nat)
    (h : mapSampleToCycle cv i = .ok r) :
    (projectCyclesToSamples vals cv).length = cv.length ∧
    (projectCyclesToSamples vals cv)[i]? = some (valAt vals r) :=
  ⟨projectLoop_length, projectLoop_lookup h⟩

theorem project_subset_to_cycles (vals : Vals) (sv : List Int) (k : Nat) (r : Option Nat)
    (h : mapCycleToSubset sv k = .ok r) :
    (projectSubsetToCycles vals sv).length = sv.length ∧
    (projectSubsetToCycles vals sv)[k]? = some (valAt vals r) :=
  ⟨projectLoop_length, projectLoop_lookup h⟩

theorem project_chain_to_subset (vals : Vals) (ch : List Int) (j : Nat) (c : Int)
    (h : mapSubsetToChain ch j = .ok c) :
    (projectChainToSubset vals ch).length = ch.length ∧
    (projectChainToSubset vals ch)[j]? = some (valAt vals (label? c)) :=
  ⟨projectLoop_length, projectLoop_spec (mapSubsetToChain_ok.mp h)⟩

theorem project_subset_to_samples (vals : Vals) (sv cv : List Int) (i : Nat) (r : Option Nat)
    (h : mapSampleToSubset sv cv i = .ok r) :
    (projectSubsetToSamples vals sv cv).length = cv.length ∧
    (projectSubsetToSamples vals sv cv)[i]? = some (valAt vals r) :=
  ⟨projectLoop_length, project_andThen (g := valAt vals) rfl
    (fun r' ha => (project_cycles_to_samples _ cv i r' ha).2) (fun k hk => (project_subset_to_cycles vals sv k r hk).2) h⟩

theorem project_chain_to_cycles (vals : Vals) (ch sv : List Int) (k : Nat) (r : Option Int)
    (h : mapCycleToChain ch sv k = .ok r) :
    (projectChainToCycles vals ch sv).length = sv.length ∧
    (projectChainToCycles vals ch sv)[k]? = some (valAt vals (r.bind label?)) :=
  ⟨projectLoop_length, project_andThen (g := fun r => valAt vals (r.bind label?)) rfl
    (fun r' ha => (project_subset_to_cycles _ sv k r' ha).2) chainStage_project h⟩

theorem project_chain_to_samples (vals : Vals) (ch sv cv : List Int) (i : Nat) (r : Option Int)
    (h : mapSampleToChain ch sv cv i = .ok r) :
    (projectChainToSamples vals ch sv cv).length = cv.length ∧
    (projectChainToSamples vals ch sv cv)[i]? = some (valAt vals (r.bind label?)) :=
  ⟨projectLoop_length, project_andThen (g := fun r => valAt vals (r.bind label?)) rfl
    (fun r' ha => (project_subset_to_samples _ sv cv i r' ha).2) chainStage_project h⟩

/-- with one value per existing group (no NaN among them) the projected entry is literally
    `(forward i).map (vals[·])` -/
theorem project_value_eq_map (vals : List Rat) (r : Option Nat) (hr : ∀ k, r = some k → k < vals.length) :
    valAt (vals.map some) r = r.map (vals[·]!) := by
  cases r with
  | none => rfl
  | some k =>
    have hk := hr k rfl
    simp [valAt, List.getElem?_eq_getElem hk]

/-! ## the samples of a cycle form one contiguous stretch (what `map_cycle_to_samples` assumes) -/

theorem cycle_to_samples_contiguous (cv : List Int) (K : Nat) (hwf : WF cv K) (k i m j : Nat)
    (hi : i ∈ mapCycleToSamples cv k) (hj : j ∈ mapCycleToSamples cv k) (him : i ≤ m) (hmj : m ≤ j) :
    m ∈ mapCycleToSamples cv k :=
  mem_whereEq.mpr (hwf.contiguous i m j k him hmj (mem_whereEq.mp hi) (mem_whereEq.mp hj) (by omega))

/-! ## the hypothesis is met by the cycle detector -/

/-- Every cycle vector produced by the model of `get_cycle_vector` (property C12; any phase, any
    threshold, good-only or all cycles, any mask) is well-formed, with K = its number of cycles:
    the theorems above apply to every cycle vector the library itself builds. -/
theorem cycle_vector_wf (g : Cycles.GoodCfg) (step : Rat) (good : Bool) (ph : List Rat) (mask : List Bool) :
    WF (Cycles.getCycleVector g step good ph mask)
      (Cycles.nCycles (Cycles.cvSegs (Cycles.wrapP step) (Cycles.accept g good) (ph.zip mask))) :=
  paint_cvSegs_wf

/-! ## non-vacuity: a recording with gaps, three cycles, two of them selected (two chains) -/

def cvEx : List Int := [-1, 0, 0, -1, 1, 1, 2, 2, 2, -1]
def validsEx : List Bool := [true, false, true]

-- cvEx is what the detector paints on six wrap-delimited segments of which the 2nd, 4th and 5th are accepted
example : WF cvEx validsEx.length :=
  (by decide +kernel : Cycles.paint (Cycles.cvSegs (fun a b : Nat => a != b) (fun r => r.head? ∈ [some 1, some 3, some 4])
      [0, 1, 1, 2, 3, 3, 4, 4, 4, 5]) = cvEx) ▸ paint_cvSegs_wf
example : subsetVector validsEx = [0, -1, 1] := by decide
example : chainVector (subsetVector validsEx) = [0, 1] := by decide
example : nLabels (chainVector (subsetVector validsEx)) = 2 := by decide
example : mapSampleToChain (chainVector (subsetVector validsEx)) (subsetVector validsEx) cvEx 7 = .ok (some 1) := rfl
example : mapChainToSamples (chainVector (subsetVector validsEx)) (subsetVector validsEx) cvEx 1 = .ok [6, 7, 8] := rfl
example : mapSampleToSubset (subsetVector validsEx) cvEx 4 = .ok none := rfl
example : mapSampleToSubset (subsetVector validsEx) cvEx 0 = .ok none := rfl
example : mapChainToCycle (chainVector (subsetVector validsEx)) (subsetVector validsEx) 0 = .ok [0] := rfl
example := exact_chain_to_samples cvEx validsEx
  ((by decide +kernel : Cycles.paint (Cycles.cvSegs (fun a b : Nat => a != b) (fun r => r.head? ∈ [some 1, some 3, some 4])
      [0, 1, 1, 2, 3, 3, 4, 4, 4, 5]) = cvEx) ▸ paint_cvSegs_wf) 1 (by decide)
example := exact_subset_to_sample cvEx validsEx 1 (by decide)

-- the hypothesis `WF` is met by an output of the cycle detector's model (C12): three cycles, all labelled
def wEx (a b : Int) : Bool := decide (4 < (b - a).natAbs)
example : Cycles.paint (Cycles.cvSegs wEx (fun _ => true) [1, 3, 6, 0, 2, 6, 1, 4]) = [0, 0, 0, 1, 1, 1, 2, 2] := by decide
example : WF (Cycles.paint (Cycles.cvSegs wEx (fun _ => true) [1, 3, 6, 0, 2, 6, 1, 4])) 3 :=
  paint_cvSegs_wf
-- ... and with a rejected (unlabelled) middle segment: a gap between cycle 0 and cycle 1
example : Cycles.paint (Cycles.cvSegs wEx (fun r => r.length != 2) [1, 3, 6, 0, 2, 7, 8, 9]) = [0, 0, 0, -1, -1, 1, 1, 1] := by decide
example : WF (Cycles.paint (Cycles.cvSegs wEx (fun r => r.length != 2) [1, 3, 6, 0, 2, 7, 8, 9])) 2 :=
  paint_cvSegs_wf

-- the witness of seeded change C16-6 (unselected cycles not among the last two): 0/1 integer flags = Boolean selection
example : subsetVectorFlags [1, 1, 0, 1, 0, 0, 1, 1, 1, 0, 1, 1] = [0, 1, -1, 2, -1, -1, 3, 4, 5, -1, 6, 7] := by decide
example : subsetVectorFlags [1, 1, 0, 1, 0, 0, 1, 1, 1, 0, 1, 1] =
    subsetVector [true, true, false, true, false, false, true, true, true, false, true, true] := by decide

end C16
