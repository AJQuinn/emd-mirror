/-
  C18 — sift configurations are faithful, addressable and persistable (`emd.sift.SiftConfig`, `get_config`).
  All statements are about the executable model `EmdModel.Config`, for every store (any nesting,
  any values), every key string, every edit and every YAML codec satisfying the stated law.
-/
import Proofs.Lemmas.Config
import Proofs.Lemmas.ComposeDefaults

namespace C18
open Config

def SlashFree (segs : List Key) : Prop := ∀ s ∈ segs, '/' ∉ s

/-! ### key paths address exactly what nested indexing addresses -/

/-- `'a/b/c'` is translated into the levels `['a','b','c']` (one to three levels). -/
theorem keyTransform_join (segs : List Key) (hne : segs ≠ []) (hlen : segs.length ≤ 3) (hs : SlashFree segs) :
    keyTransform (joinSlash segs) = .ok segs := by
  have : ¬ segs.length > 3 := by omega
  simp [keyTransform, splitSlash_joinSlash segs hne hs, this]

/-- more than three levels are rejected with `ValueError`, by all three accessors -/
theorem keyTransform_too_deep (segs : List Key) (hlen : 3 < segs.length) (hs : SlashFree segs) :
    keyTransform (joinSlash segs) = .error .valueError ∧
    (∀ store, cfgGet store (joinSlash segs) = .error .valueError) ∧
    (∀ store v, cfgSet store (joinSlash segs) v = .error .valueError) ∧
    (∀ store, cfgDel store (joinSlash segs) = .error .valueError) := by
  have hne : segs ≠ [] := by intro e; simp [e] at hlen
  have h : keyTransform (joinSlash segs) = .error .valueError := by
    simp [keyTransform, splitSlash_joinSlash segs hne hs, hlen]
  exact ⟨h, fun _ => by simp [cfgGet, h, bind, Except.bind], fun _ _ => by simp [cfgSet, h, bind, Except.bind],
    fun _ => by simp [cfgDel, h, bind, Except.bind]⟩

/-- `cfg[key]` is nested indexing along the levels of `key`, for EVERY key string. -/
theorem cfgGet_eq_nested (store : Tree) (key : Key) :
    cfgGet store key = (keyTransform key >>= fun p => getPath store p) :=
  keyTransform_bind_congr key (fun a => (getPath_single store a).symm)
    (fun a b => by simp only [getPath_cons _ _ (_ :: _), getPath_single])
    (fun a b c => by simp only [getPath_cons _ _ (_ :: _), getPath_single])

/-- `cfg[key] = v` is the nested assignment along the levels of `key`, for every key string. -/
theorem cfgSet_eq_nested (store : Tree) (key : Key) (v : Tree) :
    cfgSet store key v = (keyTransform key >>= fun p => setPath store p v) :=
  keyTransform_bind_congr key (fun _ => rfl) (fun _ _ => rfl) (fun a b c => by simp only [setPath, bind_assoc])

/-- `del cfg[key]` is the nested deletion along the levels of `key`, for every key string. -/
theorem cfgDel_eq_nested (store : Tree) (key : Key) :
    cfgDel store key = (keyTransform key >>= fun p => delPath store p) :=
  keyTransform_bind_congr key (fun _ => rfl) (fun _ _ => rfl) (fun a b c => by simp only [delPath, bind_assoc])

/-- Reading through the slash path `a/b/c` equals `store[a][b][c]`. -/
theorem path_get_eq_nested (store : Tree) (segs : List Key) (hne : segs ≠ []) (hlen : segs.length ≤ 3)
    (hs : SlashFree segs) : cfgGet store (joinSlash segs) = getPath store segs := by
  rw [cfgGet_eq_nested, keyTransform_join segs hne hlen hs]; rfl

/-- Writing through the slash path equals `store[a][b][c] = v` (same new store, same exception). -/
theorem path_set_eq_nested (store : Tree) (segs : List Key) (v : Tree) (hne : segs ≠ []) (hlen : segs.length ≤ 3)
    (hs : SlashFree segs) : cfgSet store (joinSlash segs) v = setPath store segs v := by
  rw [cfgSet_eq_nested, keyTransform_join segs hne hlen hs]; rfl

/-- Deleting through the slash path equals `del store[a][b][c]`. -/
theorem path_del_eq_nested (store : Tree) (segs : List Key) (hne : segs ≠ []) (hlen : segs.length ≤ 3)
    (hs : SlashFree segs) : cfgDel store (joinSlash segs) = delPath store segs := by
  rw [cfgDel_eq_nested, keyTransform_join segs hne hlen hs]; rfl

/-! ### edits -/

/-- A successful write is read back, at every depth, for every key string. -/
theorem get_set_same (store store' : Tree) (key : Key) (v : Tree)
    (h : cfgSet store key v = .ok store') : cfgGet store' key = .ok v := by
  rw [cfgSet_eq_nested, Except.bind_eq_ok] at h
  obtain ⟨p, hk, h⟩ := h
  rw [cfgGet_eq_nested, hk]
  exact getPath_setPath_same p store store' v h

/-- A successful write changes no entry that is not on the written path (neither above nor below
    it): every other key reads exactly as before, errors included. -/
theorem get_set_other (store store' : Tree) (key key' : Key) (v : Tree) (p q : List Key)
    (h : cfgSet store key v = .ok store') (hp : keyTransform key = .ok p) (hq : keyTransform key' = .ok q)
    (hu : Unrelated p q) : cfgGet store' key' = cfgGet store key' := by
  rw [cfgSet_eq_nested, hp] at h
  rw [cfgGet_eq_nested, cfgGet_eq_nested, hq]
  exact getPath_setPath_other p q store store' v h hu

/-- A successful delete removes the addressed entry and nothing unrelated. -/
theorem del_removes_only (store store' : Tree) (key : Key) (h : cfgDel store key = .ok store') :
    cfgGet store' key = .error .keyError ∧
    ∀ (key' : Key) (p q : List Key), keyTransform key = .ok p → keyTransform key' = .ok q → Unrelated p q →
      cfgGet store' key' = cfgGet store key' := by
  rw [cfgDel_eq_nested, Except.bind_eq_ok] at h
  obtain ⟨p, hk, h⟩ := h
  refine ⟨?_, fun key' p' q hp' hq hu => ?_⟩
  · rw [cfgGet_eq_nested, hk]
    exact getPath_delPath_same p store store' (keyTransform_ok_shape hk).1 h
  · cases hk.symm.trans hp'
    rw [cfgGet_eq_nested, cfgGet_eq_nested, hq]
    exact getPath_delPath_other p q store store' h hu

/-- Deleting `parent/k` keeps the parent: it is the old dictionary with exactly `k` removed
    (siblings, their order and values untouched). -/
theorem del_keeps_parent (store store' : Tree) (parent : List Key) (k : Key)
    (hne : parent ≠ []) (hlen : parent.length ≤ 2) (hs : SlashFree (parent ++ [k]))
    (h : cfgDel store (joinSlash (parent ++ [k])) = .ok store') :
    ∃ a, cfgGet store (joinSlash parent) = .ok (.dict a) ∧ (a.lookup k).isSome ∧
         cfgGet store' (joinSlash parent) = .ok (.dict (a.erase k)) := by
  rw [path_del_eq_nested store _ (by simp) (by simp; omega) hs] at h
  have hsp : SlashFree parent := fun s hs' => hs s (by simp [hs'])
  obtain ⟨a, h1, h2, h3⟩ := getPath_delPath_parent parent k store store' h
  refine ⟨a, ?_, h2, ?_⟩
  · rw [path_get_eq_nested store parent hne (by omega) hsp]; exact h1
  · rw [path_get_eq_nested store' parent hne (by omega) hsp]; exact h3

/-- Writing below a parent that cannot be read raises the exception of reading the parent (`KeyError`
    for a missing level, `TypeError`/`IndexError` for a non-dictionary on the way to it): intermediate
    levels are never created silently.  A parent that can be read and is no dictionary is not this
    case (`setItem` raises then; `cfgSet cfg0 (k "max_imfs/x")` below). -/
theorem set_missing_parent_errors (store : Tree) (parent : List Key) (k : Key) (v : Tree) (e : Err)
    (hne : parent ≠ []) (hlen : parent.length ≤ 2) (hs : SlashFree (parent ++ [k]))
    (h : cfgGet store (joinSlash parent) = .error e) :
    cfgSet store (joinSlash (parent ++ [k])) v = .error e := by
  have hsp : SlashFree parent := fun s hs' => hs s (by simp [hs'])
  rw [path_get_eq_nested store parent hne (by omega) hsp] at h
  rw [path_set_eq_nested store _ v (by simp) (by simp; omega) hs]
  exact setPath_parent_error parent k store v e h

/-! ### yaml-safe conversion -/

/-- converting twice is converting once (option values of the documented kinds, `plainA`: Python or
    numpy scalars, None, lists / tuples without arrays, numeric arrays, dicts of these) -/
theorem toYamlSafe_idempotent (a : Assoc) (h : plainA a = true) : toSafeA (toSafeA a) = toSafeA a :=
  toSafeA_idem a h

/-- On option values of the documented kinds the converted store contains no ndarray. -/
theorem toYamlSafe_arrayFree (a : Assoc) (h : plainA a = true) : arrayFreeA (toSafeA a) = true :=
  arrayFreeA_of_yamlSafeA _ (yamlSafeA_toSafeA a h)

/-- … and no numpy scalar either: it lies in the domain of the codec law (what PyYAML writes with
    standard tags).  `plainA` allows numpy scalars as option values and anywhere inside lists and
    tuples (D38: before the repair they were left in place, see `numpy_scalar_not_loadable_before_fix`). -/
theorem toYamlSafe_yamlSafe (a : Assoc) (h : plainA a = true) : yamlSafeA (toSafeA a) = true :=
  yamlSafeA_toSafeA a h

/-- The conversion changes nothing but sequence kinds and numpy-vs-Python scalar types of equal
    value: "tuples may become lists" (`eraseKinds` maps a scalar to its `.item()`). -/
theorem toYamlSafe_same_options (a : Assoc) : eraseKindsA (toSafeA a) = eraseKindsA a :=
  eraseKindsA_toSafeA a

/-- What `.item()` conversion does to a directly stored numpy scalar: the Python scalar of the same
    value.  Stated for the entries of one dictionary `a`; nested option dictionaries are converted by
    the same `toSafeA`, so it holds of each of them. -/
theorem toYamlSafe_numpy_scalar (a : Assoc) (key : Key) (s : Scalar) (h : a.lookup key = some (.scalar s)) :
    (toSafeA a).lookup key = some (.scalar s.item) ∧ s.item.isNp = false :=
  ⟨by rw [lookup_toSafeA, h]; rfl, Scalar.isNp_item s⟩

/-! ### the two YAML routes -/

variable {Text : Type}

/-- FILE route: `from_yaml_file(to_yaml_file(c))` has the same sift type and the yaml-safe image of
    the same options. -/
theorem roundtrip_file (C : Codec Text) (hC : C.Lawful) (st : Tree) (a : Assoc)
    (hst : yamlSafe st = true) (hpl : plainA a = true) (hstr : strOkA a = true) :
    (toYamlFile C { siftType := st, store := .dict a } >>= fromYamlFile C) =
      .ok { siftType := st, store := .dict (toSafeA a) } := by
  have hget : getItem (.dict (.cons siftTypeKey st .nil)) siftTypeKey = .ok st := by
    simp [Assoc.lookup]
  simp [toYamlFile, yamlSafeDocs, strOk, hstr, bind, Except.bind, pure, Except.pure, fromYamlFile,
    hC.loadAll_dumpAll _ (yamlSafe_docs hst hpl), hget, strOkA_toSafeA]

/-- TEXT route: `from_yaml_stream(to_yaml_text(c))` has the same sift type and the yaml-safe image
    of the same options. -/
theorem roundtrip_text (C : Codec Text) (hC : C.Lawful) (st : Tree) (a : Assoc)
    (hst : yamlSafe st = true) (hpl : plainA a = true) :
    (toYamlText C { siftType := st, store := .dict a } >>= fromYamlStream C) =
      .ok { siftType := st, store := .dict (toSafeA a) } := by
  simp [toYamlText, yamlSafeDocs, bind, Except.bind, pure, Except.pure, fromYamlStream,
    hC.load_dump _ (yamlSafe_docs hst hpl), Assoc.lookup]

/-- A SECOND trip is the identity: the configuration that was loaded, written and read again (either
    route) is exactly itself — nothing drifts over repeated save / load cycles. -/
theorem roundtrip_second_trip_identity (C : Codec Text) (hC : C.Lawful) (st : Tree) (a : Assoc)
    (hst : yamlSafe st = true) (hpl : plainA a = true) :
    (toYamlText C { siftType := st, store := .dict (toSafeA a) } >>= fromYamlStream C) =
      .ok { siftType := st, store := .dict (toSafeA a) } ∧
    (strOkA a = true →
      (toYamlFile C { siftType := st, store := .dict (toSafeA a) } >>= fromYamlFile C) =
        .ok { siftType := st, store := .dict (toSafeA a) }) := by
  have hp2 : plainA (toSafeA a) = true := plainA_of_yamlSafeA _ (yamlSafeA_toSafeA a hpl)
  refine ⟨?_, fun hstr => ?_⟩
  · rw [roundtrip_text C hC st _ hst hp2, toSafeA_idem a hpl]
  · rw [roundtrip_file C hC st _ hst hp2 (by rw [strOkA_toSafeA]; exact hstr), toSafeA_idem a hpl]

/-- The loaded configuration names the same function and binds the same keyword arguments into its
    partial, up to what `eraseKinds` forgets: tuple / array → list and numpy → Python scalar of the
    same value. -/
theorem roundtrip_get_func (known : Key → Bool) (st : Tree) (a : Assoc) (f : Key) (kw : Assoc)
    (h : getFunc known { siftType := st, store := .dict a } = .ok (f, kw)) :
    getFunc known { siftType := st, store := .dict (toSafeA a) } = .ok (f, toSafeA kw) ∧
    eraseKindsA (toSafeA kw) = eraseKindsA kw := by
  refine ⟨?_, eraseKindsA_toSafeA kw⟩
  unfold getFunc at h ⊢
  simp only [] at h ⊢
  split at h
  · split at h
    · next hk => cases h; simp [hk]
    · cases h
  · cases h

/-- Writing a configuration converts tuples / arrays in the WRITTEN documents only: the documents hold
    the yaml-safe image of the options while the live configuration is exactly what it was (the
    conversion runs on a deep copy, so `storeAfterDump` is the identity by definition: the clause
    records that modelling decision; contrast `legacy_dump_mutated_nested`). -/
theorem dump_leaves_config_untouched (st : Tree) (a : Assoc) :
    yamlSafeDocs { siftType := st, store := .dict a } =
      .ok (.cons (.dict (.cons siftTypeKey st .nil)) (.cons (.dict (toSafeA a)) .nil)) ∧
    storeAfterDump { siftType := st, store := .dict a } = .dict a ∧
    (plainA a = true → yamlSafeA (toSafeA a) = true) := ⟨rfl, rfl, yamlSafeA_toSafeA a⟩

/-- D14 (pinned code): with the shallow copy, a nested tuple became a list in the LIVE configuration. -/
theorem legacy_dump_mutated_nested :
    ∃ c : Cfg, storeAfterDumpLegacy c ≠ c.store :=
  ⟨{ siftType := defaultName,
     store := .dict (.cons (k "imf_opts") (.dict (.cons (k "rilling_thresh")
                (.seq .tuple (.cons (.scalar (.int 1)) .nil)) .nil)) .nil) }, by
    simp [storeAfterDumpLegacy, storeAfterDumpLegacy.go, toSafeA, toSafe]⟩

/-- D14 (pinned code): the text route was not an inverse — for EVERY configuration the loaded store
    was the two-element list and the sift type the default. -/
theorem legacy_text_route_not_inverse (C : Codec Text) (hC : C.Lawful) (st : Tree) (a : Assoc)
    (hst : yamlSafe st = true) (hpl : plainA a = true) :
    (toYamlText C { siftType := st, store := .dict a } >>= fromYamlStreamLegacy C) =
      .ok { siftType := defaultName,
            store := .seq .list (.cons (.dict (.cons siftTypeKey st .nil)) (.cons (.dict (toSafeA a)) .nil)) } := by
  simp [toYamlText, yamlSafeDocs, bind, Except.bind, pure, Except.pure, fromYamlStreamLegacy,
    hC.load_dump _ (yamlSafe_docs hst hpl)]

/-- D38 (before the repair): numpy scalars were left in the written documents; PyYAML dumps them with
    `python/object/apply:numpy…` tags which its FullLoader refuses, so — with the codec that refuses
    exactly the trees outside `yamlSafe` (validated against the real PyYAML by the harness, stream
    `yaml_codec`) — a configuration edited with `cfg['max_imfs'] = np.int64(3)` could be written by
    both routes and read back by neither. -/
theorem numpy_scalar_not_loadable_before_fix :
    ∃ a : Assoc, plainA a = true ∧
      (toYamlTextV1 idealCodec { siftType := defaultName, store := .dict a } >>= fromYamlStream idealCodec)
        = .error .constructorError ∧
      (toYamlFileV1 idealCodec { siftType := defaultName, store := .dict a } >>= fromYamlFile idealCodec)
        = .error .constructorError ∧
      -- … and the repaired conversion reads back the Python scalar of the same value
      (toYamlText idealCodec { siftType := defaultName, store := .dict a } >>= fromYamlStream idealCodec)
        = .ok { siftType := defaultName, store := .dict (.cons (k "max_imfs") (.scalar (.int 3)) .nil) } :=
  ⟨.cons (k "max_imfs") (.scalar (.npint (k "int64") 3)) .nil, by decide +kernel, by decide +kernel, by decide +kernel, rfl⟩

/-! ### object sharing: the model's no-aliasing assumption, made explicit

The property's clauses are about a configuration and what is read from it *at that time*; the `Tree`
model represents `get_func()`'s partial by the VALUE of the store when it was taken (`getFunc`).  The
real partial shares the nested option dicts with the live configuration.  Judged outside C18 (the
text promises a callable that behaves like the original call, not one that is frozen against later
edits of the configuration it came from; upstream documents `get_func` as "a partial-function coded
with the options from this config"); recorded here and observed on the real code by the harness. -/

open Alias in
/-- A partial (or `SiftConfig(name, **cfg)` / `dict(cfg)` copy) taken from a configuration and then
    left alone denotes exactly the configuration's options — the case the `Tree` model covers.  It holds by the
    definition of `shallowCopy` (new top level, same objects: the identity on `Top`). -/
theorem alias_copy_denotes_same_options (h : Heap) (top : Top) :
    resolve h (shallowCopy top) = resolve h top := rfl

open Alias in
/-- A later ONE-level edit of the configuration never reaches the partial: `setTop` rebinds an entry of
    the configuration's own top-level dict and returns that dict; the partial's keyword dict and the
    heap are not among its results, so the edit does not occur in the conclusion, which is that of
    `alias_copy_denotes_same_options`. -/
theorem alias_top_level_edit_not_seen (h : Heap) (top : Top) (key : Key) (v : Tree) :
    let partialKw := shallowCopy top
    let _cfgAfter := setTop top key v
    resolve h partialKw = resolve h top := rfl

open Alias in
/-- A later NESTED edit (`cfg['parent/key'] = v`) always reaches it: the partial's `parent` entry is the
    same dict object, which now holds `key ↦ v`. -/
theorem alias_nested_edit_is_seen (h : Heap) (top : Top) (parent key : Key) (addr : Nat) (v : Tree)
    (hp : slotOf top parent = some (.ref addr)) :
    (resolve (setNested h addr key v) (shallowCopy top)).lookup parent = some (.dict ((h addr).insert key v)) := by
  unfold shallowCopy
  induction top with
  | nil => simp [slotOf] at hp
  | cons e r ih =>
    obtain ⟨k', s⟩ := e
    by_cases hk : k' = parent
    · simp [slotOf, hk] at hp
      subst hp
      simp [resolve, Assoc.lookup, hk, resolveSlot, setNested]
    · simp [slotOf, hk] at hp
      simp [resolve, Assoc.lookup, hk, ih hp]

open Alias in
/-- Concrete witness (checked against the real code, stream `aliasing`): `f = cfg.get_func()`, then
    `cfg['max_imfs'] = 1` is NOT seen by `f`, `cfg['imf_opts/sd_thresh'] = 5.0` IS. -/
theorem get_func_shares_nested_dicts_current :
    ∃ (h : Heap) (top : Top) (v : Tree),
      (resolve h (shallowCopy top)).lookup (k "max_imfs") = (resolve h top).lookup (k "max_imfs") ∧
      (resolve h (setTop top (k "max_imfs") v)).lookup (k "max_imfs") ≠ (resolve h (shallowCopy top)).lookup (k "max_imfs") ∧
      (resolve (setNested h 0 (k "sd_thresh") v) (shallowCopy top)).lookup (k "imf_opts") ≠
        (resolve h (shallowCopy top)).lookup (k "imf_opts") :=
  ⟨fun _ => .cons (k "sd_thresh") (.scalar (.int 0)) .nil,
   [(k "max_imfs", .val Tree.none), (k "imf_opts", .ref 0)], .scalar (.int 5), rfl, by decide +kernel, by decide +kernel⟩

/-! ### default configurations -/

/-- `get_config(name)` holds the signature defaults: every top-level parameter of the variant (other
    than `X` and the three option dictionaries) with its default, and the three stage dictionaries
    built from the signatures of `get_next_imf`, `interp_envelope` and `get_padded_extrema` (plus the
    two spelled-out `np.pad` option dictionaries).  That the top level holds nothing else is not
    said here (`Config.lookup_defaultStore_top` says it). -/
theorem default_config_is_signature_defaults (S : Sigs) (name : Key) (sig : Assoc) (c : Cfg)
    (hv : S.variant name = some sig) (hsf : ∀ p ∈ sig.keys, '/' ∉ p)
    (h : getConfig S name = .ok c) :
    c.siftType = .scalar (.str name) ∧
    cfgGet c.store (k "imf_opts") = .ok (.dict (functionOpts gniIgnore S.gni)) ∧
    cfgGet c.store (k "envelope_opts") = .ok (.dict (functionOpts ieIgnore S.ie)) ∧
    cfgGet c.store (k "extrema_opts") =
      .ok (.dict (((functionOpts gpeIgnore S.gpe).insert (k "mag_pad_opts") magPadOpts).insert (k "loc_pad_opts") locPadOpts)) ∧
    ∀ (p : Key) (d : Tree), '/' ∉ p → p ∉ variantIgnore → p ≠ k "imf_opts" → p ≠ k "envelope_opts" →
      p ≠ k "extrema_opts" → sig.lookup p = some d → cfgGet c.store p = .ok d := by
  by_cases hn : name ∈ siftTypes
  case neg => simp [getConfig, hn] at h
  rw [getConfig_eq hn hv hsf] at h
  cases h
  obtain ⟨s1, s2, s3, _⟩ := configKeys
  obtain ⟨l1, l2, l3⟩ := lookup_defaultStore S sig
  refine ⟨rfl, ?_, ?_, ?_, fun p d hp hign h1 h2 h3 hl => ?_⟩
  · rw [cfgGet_noSlash _ _ s1, getItem_dict, l1]
  · rw [cfgGet_noSlash _ _ s2, getItem_dict, l2]
  · rw [cfgGet_noSlash _ _ s3, getItem_dict, l3]
  · rw [cfgGet_noSlash _ _ hp, getItem_dict, lookup_defaultStore_top S sig h1 h2 h3, if_neg hign, hl]

/-! ### the statements are not vacuous -/

section Examples

def cfg0 : Tree :=
  .dict (.cons (k "max_imfs") Tree.none
        (.cons (k "imf_opts") (.dict (.cons (k "sd_thresh") (.scalar (.num (1/10)))
                               (.cons (k "rilling_thresh") (.seq .tuple (.cons (.scalar (.int 1)) .nil)) .nil)))
        (.cons (k "extrema_opts") (.dict (.cons (k "loc_pad_opts") (.dict (.cons (k "mode") (Tree.str "reflect") .nil)) .nil))
         .nil)))

example : SlashFree [k "extrema_opts", k "loc_pad_opts", k "mode"] := by
  unfold SlashFree; decide +kernel

example : joinSlash [k "extrema_opts", k "loc_pad_opts", k "mode"] = k "extrema_opts/loc_pad_opts/mode" := by decide +kernel

-- a depth-3 write succeeds and is read back; a depth-2 sibling is untouched
example : ∃ s, cfgSet cfg0 (k "extrema_opts/loc_pad_opts/mode") (Tree.str "edge") = .ok s ∧
    cfgGet s (k "extrema_opts/loc_pad_opts/mode") = .ok (Tree.str "edge") ∧
    cfgGet s (k "imf_opts/sd_thresh") = .ok (.scalar (.num (1/10))) := by decide +kernel

example : Unrelated [k "extrema_opts", k "loc_pad_opts", k "mode"] [k "imf_opts", k "sd_thresh"] := by
  unfold Unrelated; decide +kernel

-- missing parent: KeyError, nothing created;  scalar parent: TypeError;  too deep: ValueError
example : cfgSet cfg0 (k "nope/x") Tree.none = .error .keyError := by decide +kernel
example : cfgSet cfg0 (k "max_imfs/x") Tree.none = .error .typeError := by decide +kernel
example : cfgGet cfg0 (k "a/b/c/d") = .error .valueError := by decide +kernel

-- a successful nested delete keeps the parent
example : ∃ s, cfgDel cfg0 (k "imf_opts/sd_thresh") = .ok s ∧
    cfgGet s (k "imf_opts") = .ok (.dict (.cons (k "rilling_thresh") (.seq .tuple (.cons (.scalar (.int 1)) .nil)) .nil)) :=
  by decide +kernel

-- the ideal codec of the driver satisfies the codec law, so `roundtrip_file/text` have a model
theorem idealCodec_lawful : idealCodec.Lawful :=
  ⟨fun t h => by simp [idealCodec, h], fun ts h => by simp [idealCodec, h]⟩

/-- a configuration edited with numpy scalars: `cfg['imf_opts/sd_thresh'] = np.float64(0.1)`,
    `cfg['max_imfs'] = np.int64(3)`, `cfg['imf_opts/rilling_thresh'] = (np.float32(0.5), [np.bool_(True)])` -/
def cfgNp : Assoc :=
  .cons (k "max_imfs") (.scalar (.npint (k "int64") 3))
  (.cons (k "imf_opts") (.dict (.cons (k "sd_thresh") (.scalar (.npnum (k "float64") (1/10)))
                         (.cons (k "rilling_thresh") (.seq .tuple (.cons (.scalar (.npnum (k "float32") (1/2)))
                            (.cons (.seq .list (.cons (.scalar (.npbool true)) .nil)) .nil))) .nil))) .nil)

example : plainA cfgNp = true := by decide +kernel
example : yamlSafeA cfgNp = false := by decide +kernel

/-- the repaired conversion: Python scalars of the same values, the nested tuple a list -/
example : toSafeA cfgNp =
    .cons (k "max_imfs") (.scalar (.int 3))
    (.cons (k "imf_opts") (.dict (.cons (k "sd_thresh") (.scalar (.num (1/10)))
                           (.cons (k "rilling_thresh") (.seq .list (.cons (.scalar (.num (1/2)))
                              (.cons (.seq .list (.cons (.scalar (.bool true)) .nil)) .nil))) .nil))) .nil) := by decide +kernel

example : plain cfg0 = true := by decide +kernel
example : strOk cfg0 = true := by decide +kernel

end Examples

/-! ### Link to the option-resolution model (C06)

`EmdModel/Options.lean` carries its own tables of signature defaults (`gniSig`, `ieSig`, `gpeSig`,
`siftSig`, `ensSig`, `maskSig`) and of the literals written inside the functions (`gpeLocLiteral`,
`gpeMagLiteral`); `Options.modelSigs` hands them to `getConfig` as the live signatures.  With those
signatures the three stage dictionaries of the default configuration hold exactly the values that
argument binding falls back to when nothing is supplied (`Options.resolve sig .nil`), so
`variant(X, **get_config(name))` and `variant(X)` resolve to the same effective options (the property
C06 then proves for every user edit, `C06.route_independent`).  For the top level the statement
names the signature `get_config` inspects and says that binding it with no keyword returns its
defaults; that the store holds those is `default_config_is_signature_defaults`. -/
theorem default_config_agrees_with_option_model (v : Options.Variant)
    (hv : v = .sift ∨ v = .ensemble ∨ v = .complete ∨ v = .mask) :
    ∃ c sig, getConfig Options.modelSigs v.name.toList = .ok c ∧
      Options.modelSigs.variant v.name.toList = some sig ∧
      -- top level: binding the variant's signature with no keyword yields each of its defaults
      (∀ p d, sig.lookup p = some d → (Options.resolve sig .nil).lookup p = some d) ∧
      -- the three stage dictionaries, entry by entry
      (∃ io, cfgGet c.store (k "imf_opts") = .ok (.dict io) ∧
        ∀ p d, io.lookup p = some d → (Options.resolve Options.gniSig .nil).lookup p = some d) ∧
      (∃ eo, cfgGet c.store (k "envelope_opts") = .ok (.dict eo) ∧
        ∀ p d, eo.lookup p = some d → (Options.resolve Options.ieSig .nil).lookup p = some d) ∧
      (∃ xo, cfgGet c.store (k "extrema_opts") = .ok (.dict xo) ∧
        ∀ p e, xo.lookup p = some e → ∃ d, (Options.resolve Options.gpeSig .nil).lookup p = some d ∧
          Options.effVal p e = Options.effVal p d) ∧
      -- the two spelled-out pad dictionaries are the fallback literals of `get_padded_extrema`
      cfgGet c.store (k "extrema_opts/loc_pad_opts") = .ok Options.gpeLocLiteral ∧
      cfgGet c.store (k "extrema_opts/mag_pad_opts") = .ok Options.gpeMagLiteral := by
  have hw : v ∈ [Options.Variant.sift, .ensemble, .complete, .mask] := by rcases hv with rfl | rfl | rfl | rfl <;> simp
  obtain ⟨s1, s2, s3, s4, s5, e4, e5, _, hne⟩ := configKeys
  obtain ⟨l1, l2, l3⟩ := Options.lookup_cfgStore v
  obtain ⟨_, _, d3⟩ := lookup_defaultStore Options.modelSigs (Options.sigOf v)
  refine ⟨_, _, Options.getConfig_model hw, (Options.sigOf_configurable hw).2.1,
    fun _ _ h => by rwa [Options.resolve_nil],
    ⟨_, ?_, fun _ _ h => ComposeDefaults.imf_defaults h⟩, ⟨_, ?_, fun _ _ h => ComposeDefaults.env_defaults h⟩,
    ⟨_, ?_, fun _ _ h => ComposeDefaults.ext_defaults h⟩, ?_, ?_⟩
  · rw [cfgGet_noSlash _ _ s1, getItem_dict, k, l1]
  · rw [cfgGet_noSlash _ _ s2, getItem_dict, k, l2]
  · rw [cfgGet_noSlash _ _ s3, getItem_dict, k, l3]
  · rw [e5, Options.cfgStore, cfgGet_two s3 s5 d3, getItem_dict, Assoc.lookup_insert_same,
      Options.gpeLocLiteral_eq]
  · rw [e4, Options.cfgStore, cfgGet_two s3 s4 d3, getItem_dict, Assoc.lookup_insert_other _ _ _ hne,
      Assoc.lookup_insert_same, Options.gpeMagLiteral_eq]

end C18
