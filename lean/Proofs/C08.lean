/-
  C08 — ensemble sifts average genuinely independent noise realisations.
  Property theorems only (helper lemmas:
  Proofs/Lemmas/{EnsemblePool,MaskSig,Ensemble,EnsembleDistinct,EnsembleScale,ComposeEnsemble}.lean).
  Statements are about the executable model `EmdModel.Ensemble`: abstract generator `draw`, abstract
  classic sift `S`, worker pool with fork semantics; for every ensemble size, number of workers,
  schedule (execution order × job→worker assignment), noise mode, noise scale and signal.

  PARTIAL (DESIGN §10): "every schedule" is every schedule of the pool *model*; the real OS scheduler is
  sampled by the correspondence run, not enumerated.
-/
import Proofs.Lemmas.Ensemble
import Proofs.Lemmas.EnsembleDistinct
import Proofs.Lemmas.ComposeEnsemble
import Proofs.Lemmas.EnsembleScale
import Proofs.C01
import Proofs.C02
import Proofs.C03

namespace C08
open Pool Ensemble

variable {ρ : Type}

/-- `Pool.starmap` of a pure job is `map` for every schedule (shared with C07). -/
theorem pool_map_schedule_indep {α β : Type} (σ : Schedule) (p : Nat) (f : α → β) (args : List α)
    (hσ : σ.Valid args.length p) : runPool σ f args = args.map f :=
  runPool_eq_map rfl hσ

/-- Repaired code (noise drawn by the parent): under every schedule, member `i` is sifted with the `i`-th
    array the parent's generator hands out — the noise observed at the member is that array. -/
theorem ensemble_member_noise (σ : Schedule) (p : Nat) (draw : ρ → Sig × ρ) (g : ρ) (S : Sig → List Sig)
    (mode : Mode) (N : Nat) (scale : Rat) (x : Sig) (hσ : σ.Valid N p) (i : Nat) (hi : i < N) :
    (ensembleTrace σ draw g S mode N scale x)[i]? =
      some (nthDraw draw g i, siftWithNoise S mode (some scale) x (nthDraw draw g i)) := by
  rw [ensembleTrace_eq hσ]
  simp [hi]

/-- Every member has its own noise realisation: for every ensemble size, number of workers and schedule,
    two different members are sifted with different arrays (successive draws of a generator being distinct). -/
theorem ensemble_noise_distinct (σ : Schedule) (p : Nat) (draw : ρ → Sig × ρ) (g : ρ) (S : Sig → List Sig)
    (mode : Mode) (N : Nat) (scale : Rat) (x : Sig) (hσ : σ.Valid N p)
    (hinj : Function.Injective (nthDraw draw g)) (i j : Nat) (hi : i < N) (hj : j < N) (hij : i ≠ j) :
    ((ensembleTrace σ draw g S mode N scale x)[i]?).map (·.1) ≠
      ((ensembleTrace σ draw g S mode N scale x)[j]?).map (·.1) := by
  rw [ensemble_member_noise σ p draw g S mode N scale x hσ i hi,
    ensemble_member_noise σ p draw g S mode N scale x hσ j hj]
  intro h
  simp only [Option.map_some, Option.some.injEq] at h
  exact hij (hinj h)

/-- What the members actually sift is pairwise different too: with a non-zero noise scale, distinct draws
    and draws as long as the signal (`randn(*X.shape)`), the signals `x + scale·ν_i` (and, flip mode,
    `x − scale·ν_i`) handed to the classic sift by two different members differ; under every schedule member
    `i` (single mode) returns the classic sift of exactly that signal.
    (`hdraw` is needed: `Sig.add` truncates to the shorter operand, longer draws could differ beyond the signal.) -/
theorem ensemble_members_distinct_inputs (σ : Schedule) (p : Nat) (draw : ρ → Sig × ρ) (g : ρ) (S : Sig → List Sig)
    (N : Nat) (scale : Rat) (x : Sig) (hσ : σ.Valid N p) (hs : scale ≠ 0)
    (hinj : Function.Injective (nthDraw draw g)) (hdraw : ∀ i, (nthDraw draw g i).length = x.length)
    (i j : Nat) (hi : i < N) (hj : j < N) (hij : i ≠ j) :
    Sig.add x (Sig.smul scale (nthDraw draw g i)) ≠ Sig.add x (Sig.smul scale (nthDraw draw g j)) ∧
    Sig.sub x (Sig.smul scale (nthDraw draw g i)) ≠ Sig.sub x (Sig.smul scale (nthDraw draw g j)) ∧
    ((ensembleTrace σ draw g S .single N scale x)[i]?).map (·.2) = some (S (Sig.add x (Sig.smul scale (nthDraw draw g i)))) ∧
    ((ensembleTrace σ draw g S .single N scale x)[j]?).map (·.2) = some (S (Sig.add x (Sig.smul scale (nthDraw draw g j)))) := by
  obtain ⟨h1, h2⟩ := member_inputs_ne _ _ scale hs (hdraw i) (hdraw j) (fun h => hij (hinj h))
  refine ⟨h1, h2, ?_, ?_⟩
  · rw [ensemble_member_noise σ p draw g S .single N scale x hσ i hi]; rfl
  · rw [ensemble_member_noise σ p draw g S .single N scale x hσ j hj]; rfl

/-- The whole ensemble (members' noises, decompositions, mean) is the same under any two schedules. -/
theorem ensemble_schedule_indep (σ σ' : Schedule) (p p' : Nat) (draw : ρ → Sig × ρ) (g : ρ) (S : Sig → List Sig)
    (mode : Mode) (N : Nat) (scale : Rat) (x : Sig) (hσ : σ.Valid N p) (hσ' : σ'.Valid N p') :
    ensembleTrace σ draw g S mode N scale x = ensembleTrace σ' draw g S mode N scale x ∧
    ensembleSift σ draw g S mode N scale x = ensembleSift σ' draw g S mode N scale x := by
  have h : ensembleTrace σ draw g S mode N scale x = ensembleTrace σ' draw g S mode N scale x := by
    rw [ensembleTrace_eq hσ, ensembleTrace_eq hσ']
  exact ⟨h, by unfold ensembleSift; rw [h]⟩

/-- Pinned code (noise drawn inside the forked worker): member `j` receives the draw whose number is the
    rank of job `j` among the jobs executed by *its own worker* — the worker's private copy of the
    generator starts from the parent's state. -/
theorem forkdraw_member_noise (σ : Schedule) (p : Nat) (draw : ρ → Sig × ρ) (g : ρ) (S : Sig → List Sig)
    (mode : Mode) (N : Nat) (scale : Rat) (x : Sig) (hσ : σ.Valid N p) (j : Nat) (hj : j < N) :
    ((ensembleTraceForkDraw σ draw g S mode N scale x)[j]?).map (·.1) =
      some (nthDraw draw g (rankInWorker σ N j)) := by
  rw [ensembleTraceForkDraw_eq hσ]
  simp [hj]

/-- Negation witness for the pinned code (DESIGN §9-D7): with at least two members on at least two workers,
    whatever the generator and the signal, the round-robin schedule gives members 0 and 1 the *same* noise
    array (both are the first job of their worker).  Replayed on the real code by corpus case
    `ensemble` #1 (4 members on 4 workers: one distinct array before the repair). -/
theorem ensemble_noise_shared_forkdraw_witness (draw : ρ → Sig × ρ) (g : ρ) (S : Sig → List Sig) (mode : Mode)
    (N p : Nat) (scale : Rat) (x : Sig) (hN : 2 ≤ N) (hp : 2 ≤ p) :
    (Schedule.roundRobin N p).Valid N p ∧
    ((ensembleTraceForkDraw (Schedule.roundRobin N p) draw g S mode N scale x)[0]?).map (·.1) =
      ((ensembleTraceForkDraw (Schedule.roundRobin N p) draw g S mode N scale x)[1]?).map (·.1) := by
  have hv := roundRobin_valid N p (by omega)
  refine ⟨hv, ?_⟩
  rw [forkdraw_member_noise _ p draw g S mode N scale x hv 0 (by omega),
    forkdraw_member_noise _ p draw g S mode N scale x hv 1 (by omega),
    rankInWorker_roundRobin N p 0 (by omega) (by omega), rankInWorker_roundRobin N p 1 (by omega) (by omega)]

/-- The ensemble result is the per-IMF mean over the members: column `j` is the mean over `i < N` of column `j`
    of member `i` (a column a member does not have counting as zero), for every schedule. -/
theorem ensemble_mean (σ : Schedule) (p : Nat) (draw : ρ → Sig × ρ) (g : ρ) (S : Sig → List Sig)
    (mode : Mode) (N : Nat) (scale : Rat) (x : Sig) (hσ : σ.Valid N p) :
    ensembleSift σ draw g S mode N scale x =
      (List.range (width draw g S mode N scale x)).map fun j =>
        meanOver x.length ((List.range N).map fun i => colOr x.length (member draw g S mode scale x i) j) := by
  rw [ensembleSift_eq hσ, ensembleMean, width]
  simp only [List.map_map, Function.comp_def]

/-- … sample by sample: `out[j][t] = (Σ_{i<N} member_i[j][t]) / N`  (sift columns of the signal's length). -/
theorem ensemble_mean_pointwise (σ : Schedule) (p : Nat) (draw : ρ → Sig × ρ) (g : ρ) (S : Sig → List Sig)
    (mode : Mode) (N : Nat) (scale : Rat) (x : Sig) (hσ : σ.Valid N p)
    (hS : ∀ y c, c ∈ S y → c.length = x.length)
    (j t : Nat) (hj : j < width draw g S mode N scale x) (ht : t < x.length) :
    ((ensembleSift σ draw g S mode N scale x)[j]?).map (fun c => Sig.sval c t) =
      some (((List.range N).map fun i => Sig.sval (colOr x.length (member draw g S mode scale x i) j) t).sum / (N : Rat)) := by
  rw [ensemble_mean σ p draw g S mode N scale x hσ]
  simp only [List.getElem?_map, List.getElem?_range hj, Option.map_some]
  have hlen : ∀ i ∈ List.range N, (colOr x.length (member draw g S mode scale x i) j).length = x.length :=
    fun i _ => length_colOr _ _ _ (mem_siftWithNoise_length _ _ hS)
  rw [sval_meanOver_map x.length t _ _ ht hlen, List.length_range]

/-- (Single mode: a member is `S (x + c·ν)` by definition of `siftWithNoise`.)
    Flip mode: a member is the mean of the +noise and −noise decompositions, column by column and sample by
    sample (`(S(x+cν)[j][t] + S(x−cν)[j][t]) / 2`, sift columns of the signal's length); it has as many columns as
    the wider of the two. -/
theorem flip_member_mean (S : Sig → List Sig) (c : Rat) (x ν : Sig) (hS : ∀ y col, col ∈ S y → col.length = x.length) :
    (siftWithNoise S .flip (some c) x ν).length
        = max (S (Sig.add x (Sig.smul c ν))).length (S (Sig.sub x (Sig.smul c ν))).length ∧
    ∀ j t, t < x.length →
      Sig.sval (colOr x.length (siftWithNoise S .flip (some c) x ν) j) t =
        (Sig.sval (colOr x.length (S (Sig.add x (Sig.smul c ν))) j) t +
         Sig.sval (colOr x.length (S (Sig.sub x (Sig.smul c ν))) j) t) / 2 := by
  refine ⟨by simp [siftWithNoise, length_flipMean], ?_⟩
  intro j t ht
  exact sval_flipMean x.length _ _ j t ht (hS _) (hS _)

/-- Zero noise amplitude: every member is exactly the classic sift of the signal and the ensemble result *is*
    the classic sift (same columns, same count, exact in ℚ) — in both noise modes, for every ensemble size ≥ 1,
    every generator and every schedule (draws and the columns of `S x` of the signal's length).
    (`S` carries the cap: the same cap on both sides.) -/
theorem ensemble_zero_noise_eq_sift (σ : Schedule) (p : Nat) (draw : ρ → Sig × ρ) (g : ρ) (S : Sig → List Sig)
    (mode : Mode) (N : Nat) (x : Sig) (hσ : σ.Valid N p) (hN : 0 < N)
    (hdraw : ∀ i, (nthDraw draw g i).length = x.length) (hS : ∀ c, c ∈ S x → c.length = x.length) :
    (∀ i, i < N → (ensembleTrace σ draw g S mode N 0 x)[i]?.map (·.2) = some (S x)) ∧
    ensembleSift σ draw g S mode N 0 x = S x := by
  have hmem : ∀ i, member draw g S mode 0 x i = S x := fun i => siftWithNoise_zero _ (hdraw i)
  refine ⟨fun i hi => ?_, ?_⟩
  · rw [ensemble_member_noise σ p draw g S mode N 0 x hσ i hi]
    simpa [member] using hmem i
  · rw [ensembleSift_eq hσ, funext hmem, List.map_const', List.length_range,
      ensembleMean_replicate x.length N _ hN hS]

/-! ### complete ensemble -/

/-- Complete ensemble, one fan-out: for every schedule, member `i` is sifted with column `i` of the parent's
    noise matrix (and returns the first IMF of residual ± that column). -/
theorem ceemd_noise_by_column (σ : Schedule) (p : Nat) (F : Sig → Sig) (mode : Mode) (scale : Option Rat)
    (proto : Sig) (noise : List Sig) (hσ : σ.Valid noise.length p) (i : Nat) :
    (ceemdMembers σ F mode scale proto noise)[i]? =
      (noise[i]?).map fun ν => (ν, siftWithNoise (fun y => [F y]) mode scale proto ν) := by
  rw [ceemdMembers_eq noise hσ, List.getElem?_map]

/-- … hence distinct columns of the matrix give the members pairwise different noise, for every schedule. -/
theorem ceemd_noise_distinct (σ : Schedule) (p : Nat) (F : Sig → Sig) (mode : Mode) (scale : Option Rat)
    (proto : Sig) (noise : List Sig) (hσ : σ.Valid noise.length p) (hd : noise.Nodup)
    (i j : Nat) (hi : i < noise.length) (hj : j < noise.length) (hij : i ≠ j) :
    ((ceemdMembers σ F mode scale proto noise)[i]?).map (·.1) ≠ ((ceemdMembers σ F mode scale proto noise)[j]?).map (·.1) := by
  rw [ceemd_noise_by_column σ p F mode scale proto noise hσ, ceemd_noise_by_column σ p F mode scale proto noise hσ,
    List.getElem?_eq_getElem hi, List.getElem?_eq_getElem hj]
  simp only [Option.map_some, ne_eq, Option.some.injEq]
  intro h
  exact hij ((List.getElem_inj hd).mp h)

/-- Complete ensemble, whole run (`stages` loop iterations, any family of schedules, one per `starmap`):
    * the returned noise matrix has column `i` = the (stages+1)-fold first-IMF residual of `scale · M_i`;
    * `stages + 1` columns are returned; column 0 is the mean over the members of the first IMF of
      `x ± scale·M_i` (the already scaled matrix is added as it is, as in every later fan-out);
    * column `k+1` is the mean over the members of the first IMF of
      `(x − Σ earlier columns) ± (k+1)-fold residual of scale·M_i` — member `i` always uses column `i`. -/
theorem ceemd_stage_mean (σ : Nat → Schedule) (p : Nat → Nat) (F Fn : Sig → Sig) (mode : Mode) (scale : Rat)
    (M : List Sig) (x : Sig) (stages : Nat) (hσ : ∀ c, (σ c).Valid M.length (p c)) :
    (ceemd σ F Fn mode scale M x stages).2 = (M.map fun m => residualPow Fn (stages + 1) (Sig.smul scale m)) ∧
    (ceemd σ F Fn mode scale M x stages).1.length = stages + 1 ∧
    (ceemd σ F Fn mode scale M x stages).1[0]? = some (stageImf F mode none x (M.map (Sig.smul scale))) ∧
    ∀ k, k < stages → (ceemd σ F Fn mode scale M x stages).1[k + 1]? =
      some (stageImf F mode none
        (Sig.sub x (Sig.vsum x.length ((ceemd σ F Fn mode scale M x stages).1.take (k + 1))))
        (M.map fun m => residualPow Fn (k + 1) (Sig.smul scale m))) := by
  rw [ceemd_eq_stage hσ]
  refine ⟨rfl, length_stageCols .., ?_, fun k hk => ?_⟩
  · rw [getElem?_stageCols (Nat.succ_pos _)]
    simp [stageCols, Sig.vsum, Sig.sub_zeros, stageNoise_zero]
  · rw [getElem?_stageCols (Nat.succ_lt_succ hk), take_stageCols (by omega)]
    rfl

/-! #### distinctness of the noise matrix at EVERY fan-out

  After fan-out `k` the parent replaces every noise column `ν` by `ν − Fn ν` (`ceemdNoiseStep`; `Fn ν` = first
  IMF of the noise-only sift of `ν`).  The matrix handed to fan-out `k` is therefore
  `stageNoise Fn scale M k = M.map fun m => residualPow Fn k (scale • m)`.  Distinct columns do NOT stay distinct
  for an arbitrary `Fn` (witness below); the exact condition is that `ν ↦ ν − Fn ν` separates the columns present at
  every stage.  It is a hypothesis on the noise-only sift (an oracle), validated on every traced run by the
  harness (kind `ceemd:stage-noise-duplicate`). -/

/-- One noise step keeps the columns pairwise different exactly when they were and `ν ↦ ν − Fn ν` separates the
    columns present — for every schedule of the noise-only `starmap`. -/
theorem ceemd_noise_step_distinct_iff (σ : Schedule) (p : Nat) (Fn : Sig → Sig) (noise : List Sig)
    (hσ : σ.Valid noise.length p) :
    (ceemdNoiseStep σ Fn noise).Nodup ↔
      noise.Nodup ∧ ∀ a, a ∈ noise → ∀ b, b ∈ noise → Sig.sub a (Fn a) = Sig.sub b (Fn b) → a = b := by
  rw [ceemdNoiseStep_eq noise hσ]
  exact nodup_map_iff _ _

/-- Stage-0 distinctness propagates to every stage: distinct columns of the drawn matrix `M`, a non-zero scale and
    `hFn` (the residual map `ν ↦ ν − Fn ν` separates the columns present at each stage) give a duplicate-free
    noise matrix at every stage `k`. -/
theorem ceemd_noise_distinct_all_stages (Fn : Sig → Sig) (scale : Rat) (M : List Sig) (hs : scale ≠ 0) (hd : M.Nodup)
    (hFn : ∀ k, ∀ a, a ∈ stageNoise Fn scale M k → ∀ b, b ∈ stageNoise Fn scale M k →
      Sig.sub a (Fn a) = Sig.sub b (Fn b) → a = b) :
    ∀ k, (M.map fun m => residualPow Fn k (Sig.smul scale m)).Nodup :=
  (nodup_stageNoise_all_iff Fn scale M hs).mpr ⟨hd, hFn⟩

/-- … in particular when the residual map is injective outright. -/
theorem ceemd_noise_distinct_all_stages_of_injective (Fn : Sig → Sig) (scale : Rat) (M : List Sig) (hs : scale ≠ 0)
    (hd : M.Nodup) (hFn : Function.Injective (fun ν => Sig.sub ν (Fn ν))) :
    ∀ k, (M.map fun m => residualPow Fn k (Sig.smul scale m)).Nodup :=
  ceemd_noise_distinct_all_stages Fn scale M hs hd (fun _ _ _ _ _ h => hFn h)

/-- The hypothesis is exactly what is needed: (with a non-zero scale) all stage matrices are duplicate-free
    if and only if `M` is and the residual map separates the columns present at every stage. -/
theorem ceemd_noise_distinct_all_stages_iff (Fn : Sig → Sig) (scale : Rat) (M : List Sig) (hs : scale ≠ 0) :
    (∀ k, (M.map fun m => residualPow Fn k (Sig.smul scale m)).Nodup) ↔
      M.Nodup ∧ ∀ k, ∀ a, a ∈ stageNoise Fn scale M k → ∀ b, b ∈ stageNoise Fn scale M k →
        Sig.sub a (Fn a) = Sig.sub b (Fn b) → a = b :=
  nodup_stageNoise_all_iff Fn scale M hs

/-- The trace `ceemdFanouts` is the run of `ceemd`: column `k` of the result is the mean over the members recorded
    for fan-out `k`; there are `stages + 1` fan-outs. -/
theorem ceemd_cols_are_fanout_means (σ : Nat → Schedule) (F Fn : Sig → Sig) (mode : Mode) (scale : Rat) (M : List Sig)
    (x : Sig) (stages : Nat) :
    (ceemd σ F Fn mode scale M x stages).1 = (ceemdFanouts σ F Fn mode scale M x stages).map fanoutMean ∧
    (ceemdFanouts σ F Fn mode scale M x stages).length = stages + 1 := by
  constructor
  · unfold ceemd ceemdFanouts
    rw [ceemdLoop_cols_eq]
    rfl
  · simp [ceemdFanouts, length_ceemdLoopFanouts]

/-- Complete ensemble, whole run: from distinct columns of the drawn matrix, a non-zero scale and `hFn`, at EVERY
    fan-out `k ≤ stages` (any family of schedules) there is one member per column and two different members are
    sifted with different noise; the returned noise matrix is duplicate-free as well.
    (The conclusion of `ceemd_noise_distinct` at every stage, with the `Nodup` of the stage matrix derived instead of
    assumed.) -/
theorem ceemd_noise_distinct_every_fanout (σ : Nat → Schedule) (p : Nat → Nat) (F Fn : Sig → Sig) (mode : Mode)
    (scale : Rat) (M : List Sig) (x : Sig) (stages : Nat) (hσ : ∀ c, (σ c).Valid M.length (p c))
    (hs : scale ≠ 0) (hd : M.Nodup)
    (hFn : ∀ k, ∀ a, a ∈ stageNoise Fn scale M k → ∀ b, b ∈ stageNoise Fn scale M k →
      Sig.sub a (Fn a) = Sig.sub b (Fn b) → a = b) :
    (∀ k, k ≤ stages → ∀ i j, i < M.length → j < M.length → i ≠ j →
      ∃ fo, (ceemdFanouts σ F Fn mode scale M x stages)[k]? = some fo ∧ fo.2.length = M.length ∧
        (fo.2[i]?).map (·.1) ≠ (fo.2[j]?).map (·.1)) ∧
    (ceemd σ F Fn mode scale M x stages).2.Nodup := by
  have hnd := ceemd_noise_distinct_all_stages Fn scale M hs hd hFn
  refine ⟨fun k hk i j hi hj hij => ?_, ?_⟩
  · have hlen := length_stageNoise Fn scale M k
    refine ⟨_, getElem?_ceemdFanouts hσ stages hk, by rw [List.length_map, hlen], ?_⟩
    -- the noise of member `i` is column `i` of the stage matrix, which has no duplicates
    simp only [List.getElem?_map, Option.map_map, Function.comp_def, Option.map_id']
    exact fun h => hij ((List.getElem?_inj (hlen ▸ hi) (hnd k)).mp h)
  · rw [(ceemd_stage_mean σ p F Fn mode scale M x stages hσ).1]
    exact hnd (stages + 1)

/-- The part that holds on the real code, where an exhausted noise column (no extrema left: it is its own first
    IMF) becomes the zero column and stays zero, so that several exhausted columns coincide: for any notion `live`
    of "not exhausted" that the residual map never revives (`hdead`), if the residual map separates the columns whose
    residual is still live (`hinj`), the live columns of every stage matrix are pairwise different. -/
theorem ceemd_live_noise_distinct_all_stages (Fn : Sig → Sig) (scale : Rat) (M : List Sig) (live : Sig → Bool)
    (hdead : ∀ k a, a ∈ stageNoise Fn scale M k → live a = false → live (Sig.sub a (Fn a)) = false)
    (hinj : ∀ k a, a ∈ stageNoise Fn scale M k → ∀ b, b ∈ stageNoise Fn scale M k →
      live (Sig.sub a (Fn a)) = true → Sig.sub a (Fn a) = Sig.sub b (Fn b) → a = b)
    (h0 : ((M.map (Sig.smul scale)).filter live).Nodup) :
    ∀ k, ((M.map fun m => residualPow Fn k (Sig.smul scale m)).filter live).Nodup := by
  intro k
  induction k with
  | zero => exact h0
  | succ k ih =>
    show ((stageNoise Fn scale M (k + 1)).filter live).Nodup
    rw [stageNoise_succ]
    exact nodup_filter_map_step _ live _ (hdead k) (hinj k) ih

/-- Witness that the hypothesis is necessary: a noise-only sift that returns its input as the first IMF (what the
    real `sift` does on a column without extrema) maps ANY two distinct columns of equal length to the same zero
    column — after one noise step the matrix has duplicate columns, and in a whole run (any scale, `F`, signal,
    mode, schedules, at least one loop stage) fan-out 1 gives members 0 and 1 the same noise and the returned
    matrix is not duplicate-free.  Replayed on the real code (two distinct monotone columns injected as the drawn
    matrix: both residuals are all-zero, stage-1 members sift the same signal) — see c08.py ASSUMPTIONS. -/
theorem ceemd_noise_distinctness_lost_witness (σ : Nat → Schedule) (p : Nat → Nat) (F : Sig → Sig) (mode : Mode)
    (scale : Rat) (a b x : Sig) (stages : Nat) (hab : a ≠ b) (hlen : a.length = b.length)
    (hσ : ∀ c, (σ c).Valid 2 (p c)) (hst : 0 < stages) :
    [a, b].Nodup ∧
    ceemdNoiseStep (σ 1) (fun ν => ν) [a, b] = [Sig.zeros a.length, Sig.zeros a.length] ∧
    ¬ (ceemdNoiseStep (σ 1) (fun ν => ν) [a, b]).Nodup ∧
    (∃ fo, (ceemdFanouts σ F (fun ν => ν) mode scale [a, b] x stages)[1]? = some fo ∧
      (fo.2[0]?).map (·.1) = some (Sig.zeros a.length) ∧ (fo.2[1]?).map (·.1) = some (Sig.zeros a.length)) ∧
    ¬ (ceemd σ F (fun ν => ν) mode scale [a, b] x stages).2.Nodup := by
  have hstep : ceemdNoiseStep (σ 1) (fun ν => ν) [a, b] = [Sig.zeros a.length, Sig.zeros a.length] := by
    rw [ceemdNoiseStep_eq [a, b] (hσ 1)]
    simp [noiseResidual, Sig.sub_self, hlen]
  have hstage : ∀ k, stageNoise (fun ν => ν) scale [a, b] (k + 1) = [Sig.zeros a.length, Sig.zeros a.length] :=
    fun k => by simp [stageNoise_id_succ, hlen]
  refine ⟨by simp [hab], hstep, by rw [hstep]; simp, ?_, ?_⟩
  · exact ⟨_, getElem?_ceemdFanouts (M := [a, b]) hσ stages (Nat.succ_le_of_lt hst),
      by rw [hstage]; rfl, by rw [hstage]; rfl⟩
  · rw [ceemd_eq_stage (M := [a, b]) hσ, hstage]
    simp

/-! #### two behaviours of `complete_ensemble_sift` behind the shape of the model

  1. Reproduced AS IT IS (not demanded or excluded by C08): the noise matrix is drawn with `np.random.random_sample` —
     uniform on [0, 1), mean 1/2 — where `ensemble_sift` draws `np.random.randn` (zero-mean N(0,1)).  The model's
     matrix `M` is an arbitrary input, so nothing here depends on it; the harness feeds the traced matrix.  Every
     member noise of the first two stages has a positive offset (single mode: the mean IMF inherits it; flip mode
     cancels it).
  2. The first fan-out hands the ALREADY scaled matrix `scale • M` to `_sift_with_noise` with `noise_scaling=None`, as
     every later stage does: `ceemd_first_stage_scaled_once` states that about the model and the harness compares it
     with the traced run (`CEEMD` op).  The pinned code passed `noise_scaling = scale` as well and `_sift_with_noise`
     scaled once more, so that stage-0 members sifted `x ± scale²·M_i` (`pinned_first_fanout_double_scaled`; repaired
     in /repo by 6e31bea): on a 1e-13-scaled signal with a small noise level the first-stage noise fell below the
     rounding of the signal and several members sifted the bare input. -/

/-- What the pinned first fan-out did, as a fact about `_sift_with_noise`: handing it the scaled column `scale·m`
    TOGETHER WITH the scale is sifting with `scale²·m`. -/
theorem pinned_first_fanout_double_scaled (F : Sig → Sig) (mode : Mode) (scale : Rat) (x m : Sig) :
    siftWithNoise (fun y => [F y]) mode (some scale) x (Sig.smul scale m)
      = siftWithNoise (fun y => [F y]) mode none x (Sig.smul (scale * scale) m) := by
  rw [siftWithNoise_some, Sig.smul_smul]

/-- Every fan-out adds the parent's matrix column as it is.  Whatever the schedules:
    * fan-out 0: the matrix column of member `i` is `scale·M_i` and the member is
      `_sift_with_noise(x, None, scale·M_i)` — single mode: `[F (x + scale·M_i)]`: the noise amplitude is
      proportional to `scale = ensemble_noise · std(x)`, at any amplitude of `x`;
    * hence column 0 of the result is the mean over the members of the first IMF of `x ± scale·M_i`;
    * fan-out `k+1`: the member is `_sift_with_noise(residual, None, ν)` with `ν` the matrix column itself, the
      `(k+1)`-fold first-IMF residual of `scale·M_i`. -/
theorem ceemd_first_stage_scaled_once (σ : Nat → Schedule) (p : Nat → Nat) (F Fn : Sig → Sig) (mode : Mode)
    (scale : Rat) (M : List Sig) (x : Sig) (stages : Nat) (hσ : ∀ c, (σ c).Valid M.length (p c)) :
    (ceemdFanouts σ F Fn mode scale M x stages)[0]? =
      some (x, M.map fun m => (Sig.smul scale m,
        siftWithNoise (fun y => [F y]) mode none x (Sig.smul scale m))) ∧
    (ceemd σ F Fn mode scale M x stages).1[0]? =
      some (meanOver x.length (M.map fun m =>
        colOr x.length (siftWithNoise (fun y => [F y]) mode none x (Sig.smul scale m)) 0)) ∧
    ∀ k, k < stages → ∃ proto, (ceemdFanouts σ F Fn mode scale M x stages)[k + 1]? =
      some (proto, M.map fun m => (residualPow Fn (k + 1) (Sig.smul scale m),
        siftWithNoise (fun y => [F y]) mode none proto (residualPow Fn (k + 1) (Sig.smul scale m)))) := by
  refine ⟨?_, ?_, fun k hk => ⟨Sig.sub x (Sig.vsum x.length (stageCols F Fn mode scale M x (k + 1))), ?_⟩⟩
  · rw [getElem?_ceemdFanouts hσ stages (Nat.zero_le _)]
    simp [stageCols, stageNoise, residualPow, Sig.vsum, Sig.sub_zeros, Function.comp_def]
  · rw [(ceemd_stage_mean σ p F Fn mode scale M x stages hσ).2.2.1]
    simp [stageImf, Function.comp_def]
  · rw [getElem?_ceemdFanouts hσ stages (Nat.succ_le_of_lt hk)]
    simp [stageNoise, Function.comp_def]

/-! Non-vacuity: the hypotheses are satisfiable on concrete non-trivial inputs. -/

/-- four members on two workers, executed out of order -/
def σex : Schedule := { order := [3, 0, 2, 1], worker := fun j => j % 2 }
example : σex.Valid 4 2 := ⟨by decide +kernel, fun j _ => Nat.mod_lt j (by decide)⟩

-- a generator whose successive draws are distinct (the driver's counter generator)
example : Function.Injective (nthDraw counterDraw 0) := nthDraw_counter_injective 0
-- under the out-of-order schedule the repaired model hands draws 0,1,2,3 to members 0,1,2,3; the pinned model
-- hands out the rank within the worker (worker 0 runs 0 then 2, worker 1 runs 3 then 1, both from the parent state)
example : (ensembleTrace σex counterDraw 0 (fun _ => []) .single 4 1 []).map (·.1) = [[0], [1], [2], [3]] := by decide +kernel
example : (ensembleTraceForkDraw σex counterDraw 0 (fun _ => []) .single 4 1 []).map (·.1) = [[0], [1], [1], [0]] := by decide +kernel
-- a sift whose columns have the signal's length (hypothesis of the pointwise / flip / zero-noise theorems)
example : ∀ (y c : Sig), c ∈ (fun _ : Sig => [([1, 2, 3] : Sig), [0, 0, 1]]) y → c.length = ([4, 5, 6] : Sig).length := by
  intro y c hc; simp at hc; rcases hc with rfl | rfl <;> rfl
-- a noise matrix with distinct columns (hypothesis of ceemd_noise_distinct)
example : ([[1, 2], [2, 1], [0, 0]] : List Sig).Nodup := by decide +kernel

-- a noise-only "first IMF" whose residual map is injective: `FnHalf ν = ν/2` (residual `ν/2`; Lemmas/EnsembleDistinct), so the hypothesis of
-- `ceemd_noise_distinct_all_stages(_of_injective)` is satisfiable; with it every stage matrix of a concrete
-- 2-column matrix is duplicate-free
example : ∀ k, (([[1, 2], [2, 1]] : List Sig).map fun m => residualPow FnHalf k (Sig.smul 2 m)).Nodup :=
  ceemd_noise_distinct_all_stages_of_injective FnHalf 2 [[1, 2], [2, 1]] (by decide +kernel) (by decide +kernel)
    FnHalf_residual_injective
-- … and the restricted form `hFn` follows from it on that matrix
example : ∀ k, ∀ a, a ∈ stageNoise FnHalf 2 [[1, 2], [2, 1]] k → ∀ b, b ∈ stageNoise FnHalf 2 [[1, 2], [2, 1]] k →
    Sig.sub a (FnHalf a) = Sig.sub b (FnHalf b) → a = b := fun _ _ _ _ _ h => FnHalf_residual_injective h
-- the witness instantiated: columns [1] ≠ [2], identity noise sift, after one step both columns are [0]
example : ceemdNoiseStep (Schedule.roundRobin 2 1) (fun ν => ν) [[1], [2]] = [[0], [0]] := by decide +kernel
-- … where the "live columns" theorem still applies (live = has a non-zero sample): its hypotheses hold for the
-- identity noise sift, whose residuals are all exhausted
example : ∀ k, ((([[1], [2]] : List Sig).map fun m => residualPow (fun ν => ν) k (Sig.smul 1 m)).filter
    (fun ν => ν.any (· ≠ 0))).Nodup := by
  have hz : ∀ a : Sig, (Sig.sub a a).any (· ≠ 0) = false := by
    intro a; rw [Sig.sub_self]; simp [Sig.zeros]
  exact ceemd_live_noise_distinct_all_stages (fun ν => ν) 1 [[1], [2]] (fun ν => ν.any (· ≠ 0))
    (fun _ a _ _ => hz a) (fun _ a _ _ _ hl => by rw [hz a] at hl; cases hl) (by decide +kernel)
-- scaled once, on numbers: scale 2, one column [1], signal [0], `F` = identity: the first component is
-- 0 + 2·1 = 2 (the pinned code gave 2·2·1 = 4), the noise matrix kept by the parent holds 2·1 = 2
example : (ceemd (fun _ => Schedule.roundRobin 1 1) (fun y => y) (fun _ => [0]) .single 2 [[1]] [0] 0) = ([[2]], [[2]]) := by
  decide +kernel
-- draws as long as the signal and pairwise distinct (hypotheses of `ensemble_members_distinct_inputs`): counter draws, 1 sample
example : Function.Injective (nthDraw counterDraw 0) ∧ ∀ i, (nthDraw counterDraw 0 i).length = ([5] : Sig).length :=
  ⟨nthDraw_counter_injective 0, fun i => by rw [nthDraw_counter]; rfl⟩

/-! ### Cross-model consistency: the ensemble mean of the Sift model (C03), and the classic sift of the
    Sift model (C01/C03/C04) as the oracle `S`

  Linked: `Ensemble.ensembleMean` / `ensembleSift` (this property) with `Sift.ensembleCols` /
  `Sift.ensembleSift` (C03: `(1/N)·Σ` vs `Σ/N`, width by `foldl`/`if` vs
  `foldr`/`max`); and the oracle `S` instantiated with `ComposeEnsemble.siftCols X thr cap fuel`
  = the columns of `Sift.siftIx` (the classic capped sift of the Sift model), resp. with `get_next_imf`
  (`Sift.extractorIx E D o`) as its extractor. -/

/-- The two models of the ensemble average compute the same columns from the same member decompositions
    (same width = widest member, same zero padding, same mean). -/
theorem ensemble_mean_agrees_with_sift_model (n : Nat) (members : List (List Sig)) :
    Sift.ensembleCols n members = ensembleMean n members :=
  ComposeEnsemble.ensembleCols_eq_ensembleMean n members

/-- `ensemble_sift` of this model (pool, generator; single-noise mode) over the Sift model's classic sift
    is `Sift.ensembleSift` on the scaled draws — for every schedule. -/
theorem ensembleSift_agrees_with_sift_model (σ : Schedule) (p : Nat) (draw : ρ → Sig × ρ) (g : ρ)
    (X : Nat → Sig → Option (Sig × Bool)) (thr : Rat) (cap : Option Nat) (fuel : Nat)
    (N : Nat) (scale : Rat) (x : Sig) (hσ : σ.Valid N p) :
    ensembleSift σ draw g (ComposeEnsemble.siftCols X thr cap fuel) .single N scale x
      = Sift.ensembleSift X thr cap x fuel ((drawN draw N g).map (Sig.smul scale)) := by
  rw [ensembleSift_eq hσ, Sift.ensembleSift, ComposeEnsemble.ensembleCols_eq_ensembleMean,
    drawN_eq_map, List.map_map, List.map_map]
  rfl

/-- C03's cap theorem holds of this model: over a classic sift capped at `k ≥ 1` the ensemble returns at
    most `k` columns, in both noise modes, for every ensemble size, scale, generator and schedule. -/
theorem ensemble_cols_le_cap_classic_sift (σ : Schedule) (p : Nat) (draw : ρ → Sig × ρ) (g : ρ)
    (X : Nat → Sig → Option (Sig × Bool)) (thr : Rat) (k fuel : Nat) (hk : 0 < k)
    (mode : Mode) (N : Nat) (scale : Rat) (x : Sig) (hσ : σ.Valid N p) :
    (ensembleSift σ draw g (ComposeEnsemble.siftCols X thr (some k) fuel) mode N scale x).length ≤ k := by
  have h : ∀ y, (ComposeEnsemble.siftCols X thr (some k) fuel y).length ≤ k := fun y => C03.sift_cols_le_cap X thr y fuel k hk
  rw [ensembleSift_eq hσ, ← ComposeEnsemble.ensembleCols_eq_ensembleMean]
  apply C03.ensemble_cols_le_cap
  intro m hm
  obtain ⟨i, _, rfl⟩ := List.mem_map.mp hm
  cases mode with
  | single => exact h _
  | flip =>
    simp only [member, siftWithNoise, length_flipMean]
    exact Nat.max_le.mpr ⟨h _, h _⟩

/-- Zero noise, two models together: with the Sift model's classic sift as `S` (any extractor meeting the
    contract `ExtractorOK`, any threshold, cap and fuel) the ensemble result *is* the classic capped sift
    of the input — both noise modes, every ensemble size ≥ 1, generator (draws of the signal's length) and
    schedule. -/
theorem ensemble_zero_noise_eq_classic_sift (σ : Schedule) (p : Nat) (draw : ρ → Sig × ρ) (g : ρ)
    (X : Nat → Sig → Option (Sig × Bool)) (thr : Rat) (cap : Option Nat) (fuel : Nat)
    (mode : Mode) (N : Nat) (x : Sig) (hσ : σ.Valid N p) (hN : 0 < N)
    (hdraw : ∀ i, (nthDraw draw g i).length = x.length) (hX : Sift.ExtractorOK X x.length) :
    ensembleSift σ draw g (ComposeEnsemble.siftCols X thr cap fuel) mode N 0 x = (Sift.siftIx X thr cap x fuel).1 :=
  (ensemble_zero_noise_eq_sift σ p draw g _ mode N x hσ hN hdraw (C01.sift_col_lengths X thr cap x hX fuel)).2

/-- … with `get_next_imf` (C04 model, every envelope oracle with length-preserving envelopes, every stop
    rule, no energy threshold) as the extractor: zero noise ⇒ `ensemble_sift` equals `sift`. -/
theorem ensemble_zero_noise_eq_getNextImf_sift (σ : Schedule) (p : Nat) (draw : ρ → Sig × ρ) (g : ρ)
    (E : Nat → Sig → Sift.Env) (hE : Sift.EnvLen E) (D : Sig → Sig → Rat) (o : Sift.ImfOpts)
    (he : o.energyThresh = none) (thr : Rat) (cap : Option Nat) (fuel : Nat)
    (mode : Mode) (N : Nat) (x : Sig) (hσ : σ.Valid N p) (hN : 0 < N)
    (hdraw : ∀ i, (nthDraw draw g i).length = x.length) :
    ensembleSift σ draw g (ComposeEnsemble.siftCols (fun _ => Sift.extractorIx E D o) thr cap fuel) mode N 0 x
      = (Sift.sift (Sift.extractorIx E D o) thr cap x fuel).1 :=
  ensemble_zero_noise_eq_classic_sift σ p draw g _ thr cap fuel mode N x hσ hN hdraw
    (C01.getNextImf_contract E hE D o he x.length)

/-- … hence C01's completeness carries over: with zero noise, when the classic sift ends because the
    extraction cleared the continue flag, the ensemble components sum back to the input exactly. -/
theorem ensemble_zero_noise_complete (σ : Schedule) (p : Nat) (draw : ρ → Sig × ρ) (g : ρ)
    (E : Nat → Sig → Sift.Env) (hE : Sift.EnvLen E) (D : Sig → Sig → Rat) (o : Sift.ImfOpts)
    (he : o.energyThresh = none) (thr : Rat) (cap : Option Nat) (fuel : Nat)
    (mode : Mode) (N : Nat) (x : Sig) (hσ : σ.Valid N p) (hN : 0 < N)
    (hdraw : ∀ i, (nthDraw draw g i).length = x.length) (cols : List Sig) (cp th : Bool)
    (h : Sift.sift (Sift.extractorIx E D o) thr cap x fuel = (cols, .done true cp th)) :
    Sig.vsum x.length
      (ensembleSift σ draw g (ComposeEnsemble.siftCols (fun _ => Sift.extractorIx E D o) thr cap fuel) mode N 0 x) = x := by
  rw [ensemble_zero_noise_eq_getNextImf_sift σ p draw g E hE D o he thr cap fuel mode N x hσ hN hdraw, h]
  exact C01.sift_getNextImf_complete E hE D o he thr cap x fuel cols cp th h

-- non-vacuity: `C01` shows an extractor meeting the contract (`C01.tabX`, 7 samples); a generator whose
-- arrays have the signal's length (hypothesis `hdraw`), schedule `σex` above
example : ∀ i (g : Nat), (nthDraw (fun g : Nat => (List.replicate 7 (g : Rat), g + 1)) g i).length
    = ([1, 3, 2, 5, 4, 7, 7] : Sig).length := by
  intro i
  induction i with
  | zero => intro g; simp [nthDraw]
  | succ k ih => intro g; exact ih _
example : Sift.ensembleCols 2 [[[1, 2], [3, 4]], [[3, 4]]] = ensembleMean 2 [[[1, 2], [3, 4]], [[3, 4]]] ∧
    ensembleMean 2 [[[1, 2], [3, 4]], [[3, 4]]] = [[2, 3], [3/2, 2]] := by decide +kernel

/-! ### Cross-model consistency: `complete_ensemble_sift` in the Sift model (C03) and in this model

  Linked: `Sift.ceemd` (C03: stop logic — fewer than two peaks / cap / mean-abs threshold — around an
  abstract ensemble step) and `Ensemble.ceemd` (this property: noise matrix, members, pools, noise
  residuals, a given number of stages, no stop logic).  `ComposeEnsemble.stepNx F Fn mode scale M` is the
  ensemble step of the former built from the ingredients of the latter. -/

/-- The two models of `complete_ensemble_sift` return the same columns: whatever the Sift model returns
    (any exit), this model run for `(number of columns) − 1` stages returns exactly those columns, for
    every valid family of pool schedules. -/
theorem ceemd_agrees_with_sift_model (σ : Nat → Schedule) (p : Nat → Nat) (F Fn : Sig → Sig) (mode : Mode)
    (scale : Rat) (M : List Sig) (thr : Rat) (cap : Option Nat) (x : Sig) (fuel : Nat)
    (hσ : ∀ c, (σ c).Valid M.length (p c)) :
    (ceemd σ F Fn mode scale M x
        ((Sift.ceemd (ComposeEnsemble.stepNx F Fn mode scale M) thr cap x fuel).1.length - 1)).1
      = (Sift.ceemd (ComposeEnsemble.stepNx F Fn mode scale M) thr cap x fuel).1 := by
  obtain ⟨n, hn, h⟩ := ComposeEnsemble.siftCeemd_stage F Fn mode scale M thr cap x fuel
  rw [h, length_stageCols, ceemd_eq_stage hσ, Nat.sub_add_cancel hn]

/-- … hence the composed `complete_ensemble_sift` (stop logic of C03 + members of C08) respects a cap
    `k ≥ 1` (C03.ceemd_cols_le_cap) and every one of its columns is the member mean that
    `ceemd_stage_mean` describes. -/
theorem ceemd_composed_cols_le_cap (σ : Nat → Schedule) (p : Nat → Nat) (F Fn : Sig → Sig) (mode : Mode)
    (scale : Rat) (M : List Sig) (thr : Rat) (k : Nat) (hk : 0 < k) (x : Sig) (fuel : Nat)
    (hσ : ∀ c, (σ c).Valid M.length (p c)) :
    ∃ stages, stages + 1 ≤ k ∧
      (ceemd σ F Fn mode scale M x stages).1
        = (Sift.ceemd (ComposeEnsemble.stepNx F Fn mode scale M) thr (some k) x fuel).1 := by
  have hcap := C03.ceemd_cols_le_cap (ComposeEnsemble.stepNx F Fn mode scale M) thr x fuel k hk
  exact ⟨_, by omega, ceemd_agrees_with_sift_model σ p F Fn mode scale M thr (some k) x fuel hσ⟩

/-! ### The scale law: the noise amplitude is LINEAR in the amplitude of the signal, at every amplitude

  `noise_scaling = X.std() * ensemble_noise` (`Ensemble.noiseScale`), and nothing else in the ensemble sifts
  depends on the amplitude of the input: no absolute tolerance decides whether "there is noise".  Stated for the
  model with `np.std` as an oracle `std` that is positively homogeneous at the factor considered
  (`hstd : std (c • x) = c · std x`, true of the standard deviation for every `c ≥ 0`).  A shortcut such as
  `if np.isclose(noise_scaling, 0): return sift(X)` (seeded C08-8) or a second multiplication by the scale
  (the defect repaired by 6e31bea, `pinned_first_fanout_double_scaled`) contradicts each of the theorems below
  on a signal scaled by a small `c`. -/

/-- `noise_scaling` of `c • x` is `c` times that of `x`. -/
theorem noise_scale_linear (std : Sig → Rat) (level c : Rat) (x : Sig) (hstd : std (Sig.smul c x) = c * std x) :
    noiseScale std level (Sig.smul c x) = c * noiseScale std level x := by
  unfold noiseScale
  rw [hstd, Rat.mul_assoc]

/-- Under every schedule member `i` of `ensemble_sift(x, ensemble_noise = level)` is the classic sift of
    `x + memberNoise i` (flip mode: the column-wise mean of the sifts of `x + memberNoise i` and
    `x − memberNoise i`), where `memberNoise i = (std x · level) • (i-th draw)` is the array actually added. -/
theorem ensemble_member_adds_member_noise (σ : Schedule) (p : Nat) (draw : ρ → Sig × ρ) (g : ρ) (S : Sig → List Sig)
    (N : Nat) (std : Sig → Rat) (level : Rat) (x : Sig) (hσ : σ.Valid N p) (i : Nat) (hi : i < N) :
    ((ensembleTraceLevel σ draw g S .single N std level x)[i]?).map (·.2)
      = some (S (Sig.add x (memberNoise draw g std level x i))) ∧
    ((ensembleTraceLevel σ draw g S .flip N std level x)[i]?).map (·.2)
      = some (flipMean x.length (S (Sig.add x (memberNoise draw g std level x i)))
                               (S (Sig.sub x (memberNoise draw g std level x i)))) := by
  unfold ensembleTraceLevel
  rw [ensemble_member_noise σ p draw g S .single N _ x hσ i hi, ensemble_member_noise σ p draw g S .flip N _ x hσ i hi]
  exact ⟨rfl, rfl⟩

/-- THE SCALE LAW OF THE NOISE: the array added to member `i` for the input `c • x` is `c` times the array added
    to member `i` for `x` — for every factor at which `std` is homogeneous, in particular every `c > 0`
    however small. -/
theorem ensemble_member_noise_scales (draw : ρ → Sig × ρ) (g : ρ) (std : Sig → Rat) (level c : Rat) (x : Sig)
    (hstd : std (Sig.smul c x) = c * std x) (i : Nat) :
    memberNoise draw g std level (Sig.smul c x) i = Sig.smul c (memberNoise draw g std level x i) := by
  unfold memberNoise
  rw [noise_scale_linear std level c x hstd, Sig.smul_smul]

/-- NO ABSOLUTE THRESHOLD: if the requested level is non-zero and `x` is not constant (`std x ≠ 0`), then for
    EVERY non-zero factor `c` (tiny ones included) the noise amplitude of `c • x` is non-zero, every member
    receives a non-zero noise array (its draw being non-zero) and two different members sift different signals,
    `c•x + noise_i ≠ c•x + noise_j` and `c•x − noise_i ≠ c•x − noise_j`: the ensemble never degenerates to
    copies of the bare input. -/
theorem ensemble_noise_never_negligible (draw : ρ → Sig × ρ) (g : ρ) (std : Sig → Rat) (level c : Rat) (x : Sig)
    (hstd : std (Sig.smul c x) = c * std x) (hc : c ≠ 0) (hl : level ≠ 0) (hsd : std x ≠ 0)
    (hinj : Function.Injective (nthDraw draw g)) (hdraw : ∀ i, (nthDraw draw g i).length = x.length) :
    noiseScale std level (Sig.smul c x) ≠ 0 ∧
    (∀ i, nthDraw draw g i ≠ Sig.zeros x.length →
      memberNoise draw g std level (Sig.smul c x) i ≠ Sig.zeros x.length ∧
      Sig.add (Sig.smul c x) (memberNoise draw g std level (Sig.smul c x) i) ≠ Sig.smul c x) ∧
    ∀ i j, i ≠ j →
      Sig.add (Sig.smul c x) (memberNoise draw g std level (Sig.smul c x) i)
        ≠ Sig.add (Sig.smul c x) (memberNoise draw g std level (Sig.smul c x) j) ∧
      Sig.sub (Sig.smul c x) (memberNoise draw g std level (Sig.smul c x) i)
        ≠ Sig.sub (Sig.smul c x) (memberNoise draw g std level (Sig.smul c x) j) := by
  have hs : noiseScale std level (Sig.smul c x) ≠ 0 := by
    rw [noise_scale_linear std level c x hstd]
    exact mul_ne_zero hc (mul_ne_zero hsd hl)
  have hlen : (Sig.smul c x).length = x.length := Sig.length_smul c x
  have hd : ∀ k, (nthDraw draw g k).length = (Sig.smul c x).length := fun k => (hdraw k).trans hlen.symm
  refine ⟨hs, fun i hi => ?_, fun i j hij => member_inputs_ne _ _ _ hs (hd i) (hd j) (fun h => hij (hinj h))⟩
  -- against the zero array: `s • 0 = 0` and `c•x + 0 = c•x`
  have := (member_inputs_ne _ (Sig.zeros x.length) _ hs (hd i) (by simp) hi).1
  rw [Sig.smul_zeros, ← hlen, Sig.add_zeros] at this
  exact ⟨fun h => hi (Sig.smul_injective _ hs (h.trans (Sig.smul_zeros _ _).symm)), this⟩

/-- THE SCALE LAW OF THE RESULT: if the classic sift commutes with the factor `c` (C02: `S' (c • y) = c • S y` column
    by column; `S' = S` for a scale-free sift, `S'` = the sift with `sift_thresh` scaled by `|c|` in general — the one
    absolute number in the classic sift) and `std` is homogeneous at `c`, then
    `ensemble_sift (c • x) = c • ensemble_sift x`, column by column, exactly — both noise modes, every ensemble size,
    level, generator and pair of schedules.  (With the same draws the members of `c • x` are `c` times the members of
    `x`; a noise amplitude that is not linear in the amplitude of `x` breaks this whatever `S` is.) -/
theorem ensemble_scale_law (σ σ' : Schedule) (p p' : Nat) (draw : ρ → Sig × ρ) (g : ρ) (S S' : Sig → List Sig)
    (mode : Mode) (N : Nat) (std : Sig → Rat) (level c : Rat) (x : Sig) (hσ : σ.Valid N p) (hσ' : σ'.Valid N p')
    (hstd : std (Sig.smul c x) = c * std x) (hS : ∀ y, S' (Sig.smul c y) = (S y).map (Sig.smul c)) :
    ensembleSiftLevel σ draw g S' mode N std level (Sig.smul c x)
      = (ensembleSiftLevel σ' draw g S mode N std level x).map (Sig.smul c) := by
  unfold ensembleSiftLevel
  rw [noise_scale_linear std level c x hstd, ensembleSift_scale σ p draw g S S' c hS mode N _ x hσ,
    (ensemble_schedule_indep σ σ' p p' draw g S mode N _ x hσ hσ').2]

/-- … and member by member: the decomposition of member `i` of `c • x` is `c` times that of member `i` of `x`. -/
theorem ensemble_members_scale (σ σ' : Schedule) (p p' : Nat) (draw : ρ → Sig × ρ) (g : ρ) (S S' : Sig → List Sig)
    (mode : Mode) (N : Nat) (std : Sig → Rat) (level c : Rat) (x : Sig) (hσ : σ.Valid N p) (hσ' : σ'.Valid N p')
    (hstd : std (Sig.smul c x) = c * std x) (hS : ∀ y, S' (Sig.smul c y) = (S y).map (Sig.smul c))
    (i : Nat) (hi : i < N) :
    ((ensembleTraceLevel σ draw g S' mode N std level (Sig.smul c x))[i]?).map (·.2)
      = ((ensembleTraceLevel σ' draw g S mode N std level x)[i]?).map (fun m => m.2.map (Sig.smul c)) := by
  unfold ensembleTraceLevel
  rw [ensemble_member_noise σ p draw g S' mode N _ _ hσ i hi, ensemble_member_noise σ' p' draw g S mode N _ x hσ' i hi,
    noise_scale_linear std level c x hstd]
  simp only [Option.map_some, Option.some.injEq]
  exact siftWithNoise_scale S S' c hS mode _ x _

/-- The scale law over the classic sift of the Sift model (C02.sift_smul): for a single-IMF extraction that commutes
    with the factor `c ≠ 0` (`hX`; C02.getNextImf_smul derives it from homogeneous envelopes and scale-free stop rules),
    the ensemble sift of `c • x` run with `sift_thresh = |c|·thr` is `c` times the ensemble sift of `x` run with `thr`
    — every cap, fuel, noise mode, ensemble size, level, generator and schedules. -/
theorem ensemble_scale_law_classic_sift (σ σ' : Schedule) (p p' : Nat) (draw : ρ → Sig × ρ) (g : ρ)
    (X X' : Sig → Option (Sig × Bool)) (c : Rat) (hc : c ≠ 0)
    (hX : ∀ y, X' (Sig.smul c y) = (X y).map fun r => (Sig.smul c r.1, r.2))
    (thr : Rat) (cap : Option Nat) (fuel : Nat) (mode : Mode) (N : Nat) (std : Sig → Rat) (level : Rat) (x : Sig)
    (hσ : σ.Valid N p) (hσ' : σ'.Valid N p') (hstd : std (Sig.smul c x) = c * std x) :
    ensembleSiftLevel σ draw g (fun y => (Sift.sift X' (Rat.abs' c * thr) cap y fuel).1) mode N std level (Sig.smul c x)
      = (ensembleSiftLevel σ' draw g (fun y => (Sift.sift X thr cap y fuel).1) mode N std level x).map (Sig.smul c) :=
  ensemble_scale_law σ σ' p p' draw g _ _ mode N std level c x hσ hσ' hstd
    (fun y => by simp only [C02.sift_smul c hc X X' hX thr cap y fuel])

/-- Complete ensemble: the parent's noise matrix at EVERY stage is linear in the amplitude of the signal —
    stage `k` of `c • x` holds `c` times the columns of stage `k` of `x` (noise-only first IMF `Fn` commuting with
    `c`) — and so is the whole result (`F` commuting with `c` as well): `complete_ensemble_sift (c • x) =
    c • complete_ensemble_sift x` (components and returned noise), for every number of stages, matrix, mode and pair of
    schedule families. -/
theorem ceemd_scale_law (σ σ' : Nat → Schedule) (p p' : Nat → Nat) (F Fn : Sig → Sig) (mode : Mode)
    (std : Sig → Rat) (level c : Rat) (M : List Sig) (x : Sig) (stages : Nat)
    (hσ : ∀ k, (σ k).Valid M.length (p k)) (hσ' : ∀ k, (σ' k).Valid M.length (p' k))
    (hstd : std (Sig.smul c x) = c * std x)
    (hF : ∀ y, F (Sig.smul c y) = Sig.smul c (F y)) (hFn : ∀ y, Fn (Sig.smul c y) = Sig.smul c (Fn y)) :
    (∀ k, stageNoise Fn (noiseScale std level (Sig.smul c x)) M k
        = (stageNoise Fn (noiseScale std level x) M k).map (Sig.smul c)) ∧
    ceemdLevel σ F Fn mode std level M (Sig.smul c x) stages
      = ((ceemdLevel σ' F Fn mode std level M x stages).1.map (Sig.smul c),
         (ceemdLevel σ' F Fn mode std level M x stages).2.map (Sig.smul c)) := by
  have hs := noise_scale_linear std level c x hstd
  rw [hs]
  refine ⟨stageNoise_scale hFn _, ?_⟩
  rw [ceemdLevel, ceemdLevel, hs, ceemd_eq_stage hσ, ceemd_eq_stage hσ',
    stageCols_scale hF hFn, stageNoise_scale hFn]

-- non-vacuity: a homogeneous `std` (here the abs-sum, homogeneous for c ≥ 0), a sift
-- that commutes with every factor (one column: the signal itself), counter draws; the scaled run on numbers:
-- x = [3, -1], std x = 4, level 1/2 → noise scale 2; for 1/1000 • x the scale is 2/1000 — not zero
example : noiseScale Sig.absSum (1/2) [3, -1] = 2 ∧ noiseScale Sig.absSum (1/2) (Sig.smul (1/1000) [3, -1]) = 2/1000 := by
  decide +kernel
example : Sig.absSum (Sig.smul (1/1000) [3, -1]) = (1/1000) * Sig.absSum [3, -1] := by decide +kernel
example : ∀ y, (fun y : Sig => [y]) (Sig.smul (1/1000) y) = ((fun y : Sig => [y]) y).map (Sig.smul (1/1000)) := fun _ => rfl
-- an extraction that commutes with every factor (hypothesis `hX` of `ensemble_scale_law_classic_sift`): return the input, flag cleared
example : ∀ (c : Rat) (y : Sig), (fun y : Sig => some (y, false)) (Sig.smul c y)
    = ((fun y : Sig => some (y, false)) y).map fun r => (Sig.smul c r.1, r.2) := fun _ _ => rfl
example : ensembleSiftLevel σex counterDraw 0 (fun y => [y]) .single 4 Sig.absSum (1/2) [3]
    = [[3 + (3 * (1/2)) * ((0 + 1 + 2 + 3) / 4)]] := by decide +kernel

end C08
