/-
  C20 — logging never changes results; verbosity overrides are temporary.
  Property theorems only (helper lemmas: Proofs/Lemmas/Logger.lean).

  Model: EmdModel/Logger.lean.  `step` is one operation of a logger history
  (`set_up`, `set_level`, `disable`, `enable`, a `@wrap_verbose`-decorated call with `verbose=v`
  whose body returns, raises an `Exception`, or is left through another `BaseException`);
  `traj`/`observe`/`run` lift it to whole histories.

  WHAT IS PROVED AND WHAT IS NOT.
  * The body of the decorated function enters the model only through its outcome (`returns | raises | interrupts`),
    which is an INPUT.  `result_indep_of_log` / `run_results_indep` are therefore definitional as far as
    the body is concerned; their content is `call_transparent`: the WRAPPER adds nothing and removes
    nothing — the caller gets the body's value or the body's own exception, in every state and for
    every documented verbosity; the wrapper never substitutes an error of its own and never swallows one.
  * That the body's numerical result is bitwise independent of the logger state is an INSTANCE check
    (c20.py: digest of every returned array against a reference computed under an untouched logger,
    over exhaustive histories to depth 3/4 and random ones beyond); it is not a theorem.
  * `sift_logger` reads its inputs: it formats `args[0].shape` eagerly, whatever the level, so
    `sift(X=x)` (signal by keyword) raises IndexError — in EVERY logger state.  State-independent, hence
    not a C20 violation; the harness asserts the state-independence of that outcome (call mode `k`).
  * Verbosity values outside the documented set {None, CRITICAL, WARNING, INFO, DEBUG} (the property's
    quantifier) are modelled as `callBad`: ignored before set_up, rejected by the wrapper after.  There the
    RESULT does depend on the logger state (`bad_verbose_depends_on_setup`) — outside the property —
    while the LEVEL guarantee still holds (`bad_verbose_level_untouched`, and `run_restores` /
    `run_calls_irrelevant` quantify over these calls too).
-/
import Proofs.Lemmas.Logger

namespace C20
open Logger

/-- The previous console level is back in place when the call returns or raises: for every state
    (set up or not, any level, disabled or not), every verbosity and every outcome. -/
theorem call_restores (s : LogState) (v : Option Level) (o : Outcome) :
    (step s (.call v o)).1.console = s.console := by
  rw [step_isCall_state s _ rfl]

/-- … and nothing else of the logger state is touched either. -/
theorem call_state_unchanged (s : LogState) (v : Option Level) (o : Outcome) :
    (step s (.call v o)).1 = s := step_isCall_state s _ rfl

/-- The wrapper is transparent: the caller sees the body's value or the body's own exception,
    never an error of the wrapper — from every state and for every documented verbosity. -/
theorem call_transparent (s : LogState) (v : Option Level) (o : Outcome) :
    ((step s (.call v o)).2.map (·.result)) = some (ownResult o) := step_result s _

/-- Requesting an override before the logger has been set up is harmless: the only error is the
    call's own, the state is unchanged and `get_level()` is still `None`. -/
theorem call_before_setup_harmless (s : LogState) (h : s.console = none) (v : Option Level) (o : Outcome) :
    (step s (.call v o)).1 = s ∧ (step s (.call v o)).1.console = none ∧
      (step s (.call v o)).2.map (·.result) = some (ownResult o) := by
  refine ⟨call_state_unchanged s v o, ?_, call_transparent s v o⟩
  rw [call_state_unchanged]; exact h

/-- What a call gives back does not depend on the logger state nor on the verbosity requested. -/
theorem result_indep_of_log (s s' : LogState) (v v' : Option Level) (o : Outcome) :
    (step s (.call v o)).2.map (·.result) = (step s' (.call v' o)).2.map (·.result) := by
  rw [call_transparent, call_transparent]

/-- The override is in force for that call: once the logger is set up, the body runs under the
    requested level (under the standing level when no verbosity is requested). -/
theorem override_in_force (s : LogState) (c : Level) (h : s.console = some c) (v : Option Level) (o : Outcome) :
    (step s (.call v o)).2.map (·.during) = some (some (v.getD c)) := by
  show some (wrapVerbose s v o).2.during = _
  unfold wrapVerbose
  cases v with
  | none => simp [h]
  | some tmp => simp [setLevel, h]

/-- Lifted to every history: at every position that holds a call, the state after the call is the
    state before it (so `get_level()` sampled after each step never moves across a call). -/
theorem run_restores (s : LogState) (ops : List Op) (i : Nat) (hi : i < ops.length)
    (hc : ops[i].isCall = true) :
    (traj s ops)[i + 1]? = (traj s ops)[i]? := by
  rw [traj_getElem?, traj_getElem?, if_pos (Nat.succ_le_of_lt hi), if_pos (Nat.le_of_lt hi),
    List.take_succ_eq_append_getElem hi, run_concat, step_isCall_state _ _ hc]

/-- Calls never change where a history ends: the final state of any history is the final state of
    the same history with every call (returning or raising, any verbosity) removed. -/
theorem run_calls_irrelevant (s : LogState) (ops : List Op) :
    run s ops = run s (ops.filter (fun op => !op.isCall)) := by
  -- folding over the filtered history is folding with the calls skipped, and a call leaves the state as it is
  rw [run, run, List.foldl_filter]
  congr; funext s op
  cases hc : op.isCall with
  | true => rw [step_isCall_state s op hc]; rfl
  | false => rfl

/-- Over every history of documented operations and from every start state, what the calls give back
    is determined by the calls alone: logger operations in between (and the start state) have no
    influence.  (`hdoc` excludes only calls with an undocumented verbosity value, for which the
    statement is false: `bad_verbose_depends_on_setup`.) -/
theorem run_results_indep (s : LogState) (ops : List Op) (hdoc : ∀ op ∈ ops, op.documented = true) :
    (observe s ops).map (·.map (·.result)) =
      ops.map (fun op => match op with
        | .call _ o => some (ownResult o)
        | _ => none) := by
  induction ops generalizing s with
  | nil => rfl
  | cons op ops ih =>
    simp only [observe, List.map_cons, ih _ (fun op' h => hdoc op' (List.mem_cons_of_mem _ h))]
    congr 1
    have hd := hdoc op (by simp)
    cases op with
    | call v o => exact call_transparent s v o
    | callBad o => simp [Op.documented] at hd
    | _ => rfl

/-! ### Every exit path; the level restored is the one in force before THIS call -/

/-- **Whatever the exit path.**  `Outcome` has three values — the body returns, raises an `Exception`, or is left
    through a `BaseException` that is not an `Exception` (KeyboardInterrupt, SystemExit) — and `call_restores` /
    `call_state_unchanged` / `run_restores` quantify over all three.  That the third one is not covered for free:
    a wrapper that restores after a normal return and in an `except Exception` handler instead of a `finally`
    (`wrapVerboseExceptOnly`, seeded change C20-5) restores on the first two exits and LEAKS the per-call level on
    the third, from every set-up state and for every requested level other than the standing one — whereas the
    modelled wrapper restores on all three. -/
theorem except_only_restore_leaks_on_interrupt (s : LogState) (c tmp : Level) (h : s.console = some c)
    (hne : tmp ≠ c) :
    (stepExceptOnly s (.call (some tmp) .returns)).1 = s ∧
    (stepExceptOnly s (.call (some tmp) .raises)).1 = s ∧
    (stepExceptOnly s (.call (some tmp) .interrupts)).1.console = some tmp ∧
    (stepExceptOnly s (.call (some tmp) .interrupts)).1 ≠ s ∧
    ∀ o, (step s (.call (some tmp) o)).1 = s := by
  cases s with
  | mk console disabled =>
    cases h
    -- the state after the interrupt differs from `s` in the console level
    have h3 : (stepExceptOnly ⟨some c, disabled⟩ (.call (some tmp) .interrupts)).1.console = some tmp := rfl
    exact ⟨rfl, rfl, h3, fun e => hne (Option.some.inj (h3.symm.trans (congrArg LogState.console e))),
      fun o => call_state_unchanged _ _ o⟩

/-- **The level put back is the one in force immediately before THIS call**, after any history: appending a call
    (any verbosity, any of the three exits) to any history — earlier calls, `set_level`s, `set_up`s, `disable`s in
    any order — does not change where the history ends. -/
theorem call_restores_after_any_history (s : LogState) (pre : List Op) (v : Option Level) (o : Outcome) :
    run s (pre ++ [.call v o]) = run s pre := by
  rw [run_concat, step_isCall_state _ _ rfl]

/-- **Restoration does not depend on a level saved by an earlier call.**  A first call (which saved and restored
    the level `c`), then `set_level(l)`, then a second call: the second call puts `l` back — not `c`, the level
    the first call had saved — whatever the verbosities and exits of the two calls; and any number of further
    calls leaves it there. -/
theorem restore_independent_of_earlier_call (s : LogState) (c : Level) (h : s.console = some c)
    (v1 v2 : Option Level) (o1 o2 : Outcome) (l : Level) (later : List Op) (hl : ∀ op ∈ later, op.isCall = true) :
    (run s ([.call v1 o1, .setLevel l, .call v2 o2] ++ later)).console = some l := by
  -- without the calls the history is the one `set_level`
  have hlater : later.filter (fun op : Op => !op.isCall) = [] :=
    List.filter_eq_nil_iff.mpr fun op hop => by simp [hl op hop]
  rw [run_calls_irrelevant, List.filter_append, hlater]
  exact (setLevel_console s l).trans (by rw [h]; rfl)

/-! ### A verbosity outside the documented values (`verbose='debug'`, `verbose=10`, …) -/

/-- The LEVEL guarantee does not need a valid verbosity: whatever was requested, in every state and
    on every exit, the logger state after the call is the state before it. -/
theorem bad_verbose_level_untouched (s : LogState) (o : Outcome) :
    (step s (.callBad o)).1 = s := step_isCall_state s _ rfl

/-- Before `set_up` an undocumented verbosity is silently ignored (no console handler: `set_level`
    never evaluates it): the caller gets the body's own outcome — "harmless before set-up". -/
theorem bad_verbose_before_setup_ignored (s : LogState) (h : s.console = none) (o : Outcome) :
    (step s (.callBad o)).2.map (·.result) = some (ownResult o) := by
  simp [step_result, h]

/-- Once a console handler exists the wrapper rejects it before the body runs (an error of the
    wrapper, not of the call), leaving the level as it was. -/
theorem bad_verbose_after_setup_rejected (s : LogState) (c : Level) (h : s.console = some c) (o : Outcome) :
    (step s (.callBad o)).2.map (·.result) = some .raisedWrapper ∧ (step s (.callBad o)).1.console = some c := by
  refine ⟨by simp [step_result, h], by rw [bad_verbose_level_untouched]; exact h⟩

/-- So for an UNDOCUMENTED verbosity the result does depend on the logger state (same call, same
    returning body: value before `set_up`, wrapper error after) — the reason why `call_transparent`
    and `run_results_indep` are stated for the documented values, which is what C20 quantifies over. -/
theorem bad_verbose_depends_on_setup :
    (step init (.callBad .returns)).2.map (·.result) = some .returned ∧
    (step (setUp init none) (.callBad .returns)).2.map (·.result) = some .raisedWrapper := by
  decide +kernel

/-- The wrapper's own error can occur ONLY for an undocumented verbosity: every documented operation
    shows the body's outcome or nothing. -/
theorem wrapper_error_only_if_undocumented (s : LogState) (op : Op) (obs : CallObs)
    (h : (step s op).2 = some obs) (hw : obs.result = .raisedWrapper ∨ obs.result = .raisedKeyError) :
    op.documented = false := by
  have := step_result s op
  rw [h] at this
  cases op with
  | call v o =>
    -- the body's own outcome is never one of the wrapper's errors
    have hr : obs.result = ownResult o := Option.some.inj this
    rw [hr] at hw
    cases o <;> simp [ownResult] at hw
  | callBad o => rfl
  | _ => cases this

/-! ### The pinned `wrap_verbose` violates both halves (DESIGN §9-D16); kept as witnesses. -/

/-- pinned code: a raising call leaks the temporary level -/
theorem raise_leaks_level_current :
    (stepPinned (setUp init (some .warning)) (.call (some .debug) .raises)).1.console = some .debug ∧
    (setUp init (some .warning)).console = some .warning := by
  decide +kernel

/-- pinned code: an override before `set_up` loses the call's value to a `KeyError` -/
theorem presetup_keyerror_current :
    (stepPinned init (.call (some .info) .returns)).2.map (·.result) = some .raisedKeyError := by
  decide +kernel

/-! ### Non-vacuity -/

/-- a history of documented operations: every kind, returning and raising calls, before and after set-up -/
def demo : List Op :=
  [.call (some .info) .returns, .setUp (some .warning), .call (some .debug) .raises, .disable,
   .call (some .critical) .returns, .enable, .setLevel .debug, .call none .raises]

example : (traj init demo).map (·.console) =
    [none, none, some .warning, some .warning, some .warning, some .warning, some .warning,
     some .debug, some .debug] := by decide +kernel

example : (observe init demo).map (·.map (·.result)) =
    [some .returned, none, some .raisedOwn, none, some .returned, none, none, some .raisedOwn] := by decide +kernel

example : ∀ op ∈ demo, op.documented = true := by decide +kernel

-- a history with undocumented verbosities: the level trajectory is that of the history without the calls
example : (traj init [.callBad .returns, .setUp (some .warning), .callBad .returns, .callBad .raises]).map (·.console) =
    [none, none, some .warning, some .warning, some .warning] := by decide +kernel
example : (observe init [.callBad .returns, .setUp (some .warning), .callBad .returns, .callBad .raises]).map (·.map (·.result)) =
    [some .returned, none, some .raisedWrapper, some .raisedWrapper] := by decide +kernel

example : (traj init demo)[3]? = (traj init demo)[2]? :=
  run_restores init demo 2 (by decide +kernel) (by decide +kernel)

example : (step (setUp init (some .warning)) (.call (some .debug) .raises)).2.map (·.during)
    = some (some .debug) := override_in_force _ .warning (by decide +kernel) _ _

-- the C20-5 situation: set up at WARNING, verbose=DEBUG, the call is left through KeyboardInterrupt: the modelled wrapper is
-- back at WARNING, the except-only variant stays at DEBUG; then set_level between two calls
example : (step (setUp init (some .warning)) (.call (some .debug) .interrupts)).1.console = some .warning := by decide +kernel
example : (stepExceptOnly (setUp init (some .warning)) (.call (some .debug) .interrupts)).1.console = some .debug := by decide +kernel
example : (run (setUp init (some .warning)) [.call (some .debug) .interrupts, .setLevel .critical, .call (some .info) .raises]).console
    = some .critical := by decide +kernel

end C20
