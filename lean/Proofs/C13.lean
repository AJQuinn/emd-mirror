/-
  C13 — good cycles are exactly those meeting the documented phase criteria.
  Property theorems only (helper lemmas: Proofs/Lemmas/Cycles*.lean, ComposeContainer.lean).
-/
import Proofs.Lemmas.Cycles
import Proofs.Lemmas.CyclesSlices
import Proofs.Lemmas.ComposeContainer

namespace C13
open Cycles

/-- The acceptance test of a segment is the conjunction of the documented criteria:
    non-empty, strictly increasing, start within the edge tolerance above 0,
    end within the edge tolerance below 2π. -/
theorem isGood_spec (g : GoodCfg) (ph : List Rat) :
    isGood g ph = true ↔
      ∃ a z, ph.head? = some a ∧ ph.getLast? = some z ∧ ph.Pairwise (· < ·) ∧
        0 ≤ a ∧ a ≤ g.edge ∧ g.endlo ≤ z ∧ z ≤ g.twopi := by
  unfold isGood isGoodChecks
  cases h1 : ph.head? with
  | none => simp
  | some a =>
    cases h2 : ph.getLast? with
    | none => simp
    | some z =>
      simp only [Bool.and_eq_true, decide_eq_true_eq, strictInc_iff, Option.some.injEq]
      constructor
      · rintro ⟨⟨hp, h0, he⟩, hz, hl⟩
        exact ⟨a, z, rfl, rfl, hp, h0, he, hl, hz⟩
      · rintro ⟨a', z', rfl, rfl, hp, h0, he, hl, hz⟩
        exact ⟨⟨hp, h0, he⟩, hz, hl⟩

/-- Soundness and completeness: with at least one wrap, a wrap-delimited segment is labelled
    if and only if it passes the acceptance test (all criteria when only good cycles are
    requested) and none of its samples is masked out. -/
theorem cv_good_iff (g : GoodCfg) (step : Rat) (good : Bool) (xs : List (Rat × Bool))
    (hw : 2 ≤ (runsBy (wrapP step) xs).length) :
    ∀ s ∈ cvSegs (wrapP step) (accept g good) xs,
      (s.2.isSome ↔ (s.1.all (·.2) = true ∧ (good = true → isGood g (s.1.map (·.1)) = true))) := by
  intro s hs
  rw [cvSegs_of_wrap hw] at hs
  rw [labelRuns_label_iff _ _ s hs]
  unfold accept
  cases good <;> simp

/-- The partition into segments does not depend on which cycles are requested. -/
theorem good_same_partition {α : Type} (w : α → α → Bool) (acc₁ acc₂ : List α → Bool) (xs : List α) :
    (cvSegs w acc₁ xs).map (·.1) = (cvSegs w acc₂ xs).map (·.1) := by
  rw [cvSegs_runs, cvSegs_runs]

/-- Order-preserving renumbering: the label of a labelled segment is the number of labelled
    segments before it. -/
theorem cv_good_renumbers {α : Type} (w : α → α → Bool) (acc : List α → Bool) (xs : List α)
    (pre post : List (List α × Option Nat)) (run : List α) (k : Nat)
    (h : cvSegs w acc xs = pre ++ (run, some k) :: post) : k = nCycles pre := by
  have hl := cvSegs_labels (w := w) (acc := acc) (xs := xs)
  rw [h] at hl
  simp only [List.filterMap_append, List.filterMap_cons] at hl
  exact (range_split hl).1

/-- The container's per-cycle quality flag agrees with good-cycle detection: the flag of the
    i-th cycle of the all-cycles partition is set exactly when that segment is labelled in the
    good-cycles partition (same edge tolerance, no mask). -/
theorem container_flag_agrees (g : GoodCfg) (step : Rat) (ph : List Rat)
    (hw : 2 ≤ (runsBy (wrapAt step) ph).length) :
    containerIsGood g step ph = (cvSegs (wrapAt step) (isGood g) ph).map (·.2.isSome) := by
  rw [containerIsGood_eq g step ph hw, cvSegs_of_wrap hw, labelRuns_isSome]

/-- **Bridge to the public entry point**: `get_cycle_vector(phase, return_good=True)` without a mask
    (model: `getCycleVector g step true ph (all-true mask)`, whose code-shaped form `cvIdx` is what the
    driver runs) is the painted partition whose acceptance test is `is_good` alone — the right-hand side of
    `container_flag_agrees`. -/
theorem getCycleVector_good_eq (g : GoodCfg) (step : Rat) (ph : List Rat) :
    getCycleVector g step true ph (List.replicate ph.length true) = paint (cvSegs (wrapAt step) (isGood g) ph) ∧
    cvIdx (wrapAt step) (isGood g) ph = paint (cvSegs (wrapAt step) (isGood g) ph) :=
  ⟨getCycleVector_nomask g step true ph, cvIdx_eq_paint _ _ _⟩

/-- **The container flag agrees with `get_cycle_vector(return_good=True)`, sample by sample.**  Let sample
    p carry label i in the all-cycles vector `get_cycle_vector(phase, return_good=False)` (so p lies in the
    i-th cycle of the all-cycles partition).  Then the container's quality flag of cycle i is set if and
    only if sample p is labelled (label ≥ 0) in `get_cycle_vector(phase, return_good=True)` — same phase,
    same step and edge tolerance, no mask. -/
theorem container_flag_agrees_getCycleVector (g : GoodCfg) (step : Rat) (ph : List Rat) (p i : Nat)
    (hp : (getCycleVector g step false ph (List.replicate ph.length true))[p]? = some (i : Int)) :
    (containerIsGood g step ph)[i]? = some true ↔
      ∃ l, (getCycleVector g step true ph (List.replicate ph.length true))[p]? = some l ∧ 0 ≤ l := by
  rw [(getCycleVector_good_eq g step ph).1]
  rw [getCycleVector_all] at hp
  rcases Nat.lt_or_ge 1 (runsBy (wrapAt step) ph).length with h1 | h1
  · rw [containerIsGood_eq g step ph h1, cvSegs_of_wrap h1]
    rw [cvSegs_of_wrap h1] at hp
    exact paint_labelRuns_sample (isGood g) (runsBy (wrapAt step) ph) 0 0 p i (by simpa using hp)
  · -- no wrap: no sample carries a label
    have := paint_no_wrap h1 _ (List.mem_of_getElem? hp)
    omega

/-- **The container's quality flag does not depend on the container's options.**  `Container.initOpts` is the
    constructor `Cycles(IP, phase_step, phase_edge, compute_timings, mode, use_cache)` with every option it
    has.  For every `mode` ∈ {cycle, augmented}, with or without `compute_timings`, cache on or off, the stored
    `is_good` metric is the SAME vector: `containerIsGood` — `is_good` on every wrap-delimited cycle of the
    all-cycles partition, i.e. the documented criteria for the cycle (`isGood_spec`), agreeing with good-cycle
    detection (`container_flag_agrees`) — never the criteria of the augmented segment (seeded change C13-5). -/
theorem container_flag_independent_of_options (g : GoodCfg) (pstep thr : Rat) (cache : Bool)
    (mode : Container.Mode) (timings : Bool) (ph : List Rat) :
    Container.sget (Container.initOpts g pstep thr cache mode timings ph).1.metrics Container.isGoodName =
      some ((containerIsGood g pstep ph).map fun b => some (if b then 1 else 0)) ∧
    Container.isGoodFlags (Container.initOpts g pstep thr cache mode timings ph).1 = some (containerIsGood g pstep ph) ∧
    ∀ (cache' : Bool) (mode' : Container.Mode) (timings' : Bool),
      Container.isGoodFlags (Container.initOpts g pstep thr cache' mode' timings' ph).1 =
        Container.isGoodFlags (Container.initOpts g pstep thr cache mode timings ph).1 := by
  refine ⟨Container.initOpts_isGood g pstep thr cache mode timings ph,
    Container.initOpts_flags g pstep thr cache mode timings ph, fun cache' mode' timings' => ?_⟩
  rw [Container.initOpts_flags, Container.initOpts_flags]

/-- … and through the constructor the flag is the documented criteria, cycle by cycle: with at least one wrap,
    flag i of a container built with ANY options is set iff the i-th wrap-delimited segment is non-empty,
    strictly increasing, starts within the edge tolerance above 0 and ends within it below 2π. -/
theorem container_flag_is_criteria (g : GoodCfg) (pstep thr : Rat) (cache : Bool) (mode : Container.Mode)
    (timings : Bool) (ph : List Rat) (hw : 2 ≤ (runsBy (wrapAt pstep) ph).length) :
    ∃ flags, Container.isGoodFlags (Container.initOpts g pstep thr cache mode timings ph).1 = some flags ∧
      flags.length = (runsBy (wrapAt pstep) ph).length ∧
      ∀ (i : Nat) (seg : List Rat), (runsBy (wrapAt pstep) ph)[i]? = some seg →
        (flags[i]? = some true ↔
          ∃ a z, seg.head? = some a ∧ seg.getLast? = some z ∧ seg.Pairwise (· < ·) ∧
            0 ≤ a ∧ a ≤ g.edge ∧ g.endlo ≤ z ∧ z ≤ g.twopi) := by
  have hflags := containerIsGood_eq g pstep ph hw
  refine ⟨_, Container.initOpts_flags g pstep thr cache mode timings ph, by simp [hflags], ?_⟩
  intro i seg hseg
  rw [hflags, List.getElem?_map, hseg, ← isGood_spec]
  simp

/-- A looser tolerance never rejects what a tighter one accepts: the acceptance test is monotone in
    `phase_edge` (start bound up, end bound down).  A change that compares against the wrong bound, or
    flips one of the inequalities, breaks this for some segment. -/
theorem isGood_mono_edge (g g' : GoodCfg) (ph : List Rat)
    (he : g.edge ≤ g'.edge) (hl : g'.endlo ≤ g.endlo) (ht : g.twopi ≤ g'.twopi)
    (h : isGood g ph = true) : isGood g' ph = true := by
  rw [isGood_spec] at h ⊢
  obtain ⟨a, z, ha, hz, hp, h0, h1, h2, h3⟩ := h
  exact ⟨a, z, ha, hz, hp, h0, Rat.le_trans h1 he, Rat.le_trans hl h2, Rat.le_trans h3 ht⟩

/-- An empty segment is never a good cycle (the implementation raises on it; `isGoodChecks = none`). -/
theorem isGood_nil (g : GoodCfg) : isGood g [] = false := by
  simp [isGood, isGoodChecks]

/-- A one-sample segment is good only if that single phase value lies in BOTH tolerance bands; when the
    bands are disjoint (`edge < endlo`, i.e. `phase_edge < π` — every documented setting) no single sample
    is ever a good cycle. -/
theorem isGood_singleton (g : GoodCfg) (a : Rat) (hd : g.edge < g.endlo) : isGood g [a] = false := by
  cases h : isGood g [a] with
  | false => rfl
  | true =>
    rw [isGood_spec] at h
    obtain ⟨a', z', ha, hz, -, -, h1, h2, -⟩ := h
    simp only [List.head?_cons, Option.some.injEq, List.getLast?_singleton] at ha hz
    grind

/-- A good segment of length ≥ 2 starts strictly below where it ends (strict increase of ALL consecutive
    pairs, chained). -/
theorem isGood_head_lt_last (g : GoodCfg) (a b : Rat) (t : List Rat) (h : isGood g (a :: b :: t) = true) :
    ∃ z, (a :: b :: t).getLast? = some z ∧ a < z := by
  rw [isGood_spec] at h
  obtain ⟨a', z, ha, hz, hp, -⟩ := h
  refine ⟨z, hz, ?_⟩
  have hmem : z ∈ b :: t := by
    have : (b :: t).getLast? = some z := by simpa [List.getLast?_cons_cons] using hz
    exact List.mem_of_getLast? this
  exact (List.pairwise_cons.mp hp).1 z hmem

/-! Non-vacuity -/
example : isGood { edge := 1/4, twopi := 6, endlo := 23/4 } [1/8, 3, 47/8] = true := by
  rw [isGood_spec]; exact ⟨1/8, 47/8, rfl, rfl, by decide +kernel, by decide +kernel, by decide +kernel,
    by decide +kernel, by decide +kernel⟩

-- three wrap-delimited segments, the middle one fails the end criterion: sample 3 lies in cycle 1 of the
-- all-cycles partition (the hypothesis of `container_flag_agrees_getCycleVector` is satisfiable)
example : (getCycleVector { edge := 1/4, twopi := 6, endlo := 23/4 } 4 false [1/8, 3, 47/8, 1/8, 5, 1/8, 3, 47/8]
    (List.replicate 8 true))[3]? = some ((1 : Nat) : Int) := by decide +kernel
example : getCycleVector { edge := 1/4, twopi := 6, endlo := 23/4 } 4 true [1/8, 3, 47/8, 1/8, 5, 1/8, 3, 47/8]
    (List.replicate 8 true) = [0, 0, 0, -1, -1, 1, 1, 1] := by decide +kernel
-- the witness of seeded change C13-5: three full cycles, container built with mode='augmented', timings on, cache off: all
-- three flags set (the augmented criteria would reject the first cycle)
example : Container.isGoodFlags (Container.initOpts { edge := 1/4, twopi := 6, endlo := 23/4 } 4 (9/2) false .augmented true
    [1/8, 3, 47/8, 1/8, 3, 47/8, 1/8, 3, 47/8]).1 = some [true, true, true] := by
  rw [(container_flag_independent_of_options _ _ _ _ _ _ _).2.1]; decide +kernel
example : 2 ≤ (runsBy (wrapAt 4) [1/8, 3, 47/8, 1/8, 3, 47/8, 1/8, 3, 47/8]).length := by decide +kernel
example : ({ edge := 1/4, twopi := 6, endlo := 23/4 } : GoodCfg).edge < ({ edge := 1/4, twopi := 6, endlo := 23/4 } : GoodCfg).endlo := by decide +kernel
end C13
