/-
  C03 — IMFs are peeled one at a time from the running residual; caps are respected.

  Model (EmdModel/Sift.lean): `peelLoop` is the outer loop shared by `sift` (`siftIx`, extraction indexed by the layer)
  and `mask_sift` (`maskSift`, extraction may depend on the columns so far; cap lowered to the number of user
  frequencies, `effCap`); `ensembleCols` / `ensembleSift`, `ceemd`, `secondLayer` and `maskSecondLayer` are the counter
  and cap logic of the other variants over abstract inner steps.  `resid x cols = x − Σ cols`.  All statements hold for
  every extractor, threshold, cap ≥ 1, input and fuel.

  Partial: "every result is finite for finite input" is not a theorem (ℚ has no inf/NaN); it is
  decided by the instance check on the implementation only.
-/
import Proofs.Lemmas.SiftVariants

namespace C03
open Sift

/-! ### classic sift -/

/-- The k-th component is the single-IMF extraction applied to the input minus the first k components. -/
theorem sift_col_eq_extract (X : Nat → Sig → Option (Sig × Bool)) (thr : Rat) (cap : Option Nat) (x : Sig)
    (fuel : Nat) (out : List Sig) (e : SiftEnd) (h : siftIx X thr cap x fuel = (out, e)) :
    ∀ k, k < out.length → ∃ c f, out[k]? = some c ∧ X k (resid x (out.take k)) = some (c, f) :=
  siftIx_cols h

/-- Capping at k ≥ 1 returns exactly the first k components of the uncapped run (same fuel; also when
    the uncapped run is cut off by the fuel or by a raising extraction). -/
theorem sift_cap_prefix (X : Nat → Sig → Option (Sig × Bool)) (thr : Rat) (x : Sig) (fuel k : Nat) (hk : 0 < k) :
    (siftIx X thr (some k) x fuel).1 = (siftIx X thr none x fuel).1.take k :=
  peelLoop_cap_prefix hk

/-- A cap k ≥ 1 is never exceeded. -/
theorem sift_cols_le_cap (X : Nat → Sig → Option (Sig × Bool)) (thr : Rat) (x : Sig) (fuel k : Nat) (hk : 0 < k) :
    (siftIx X thr (some k) x fuel).1.length ≤ k :=
  peelLoop_le_cap hk

/-- Capped runs are nested: for k ≤ K the k-capped result is the first k components of the K-capped one. -/
theorem sift_cap_nested (X : Nat → Sig → Option (Sig × Bool)) (thr : Rat) (x : Sig) (fuel k K : Nat)
    (hk : 0 < k) (hK : k ≤ K) :
    (siftIx X thr (some k) x fuel).1 = (siftIx X thr (some K) x fuel).1.take k := by
  rw [sift_cap_prefix X thr x fuel k hk, sift_cap_prefix X thr x fuel K (Nat.lt_of_lt_of_le hk hK), List.take_take,
    Nat.min_eq_left hK]

/-! ### mask sift -/

/-- The k-th masked component is the masked extraction of its layer applied to the input minus the
    first k components. -/
theorem maskSift_col_eq_extract (M : List Sig → Sig → Option (Sig × Bool)) (thr : Rat) (cap : Nat)
    (nf : Option Nat) (x : Sig) (fuel : Nat) (out : List Sig) (e : SiftEnd)
    (h : maskSift M thr cap nf x fuel = (out, e)) :
    ∀ k, k < out.length →
      ∃ c f, out[k]? = some c ∧ M (out.take k) (resid x (out.take k)) = some (c, f) :=
  peel_cols h

/-- mask_sift never returns more components than the cap, nor more than the user supplied frequencies. -/
theorem maskSift_cols_le_cap (M : List Sig → Sig → Option (Sig × Bool)) (thr : Rat) (cap : Nat)
    (nf : Option Nat) (x : Sig) (fuel : Nat) (hc : 0 < cap) (hm : ∀ m, nf = some m → 0 < m) :
    (maskSift M thr cap nf x fuel).1.length ≤ cap ∧
    (∀ m, nf = some m → (maskSift M thr cap nf x fuel).1.length ≤ m) := by
  have hle : (maskSift M thr cap nf x fuel).1.length ≤ effCap cap nf := peelLoop_le_cap (effCap_pos cap nf hc hm)
  refine ⟨Nat.le_trans hle (effCap_le_cap cap nf), ?_⟩
  intro m hnf
  subst hnf
  exact Nat.le_trans hle (effCap_le_nfreqs cap m)

/-- Capped masked runs are nested: cap k ≤ K gives the first k components of the K-capped run. -/
theorem maskSift_cap_prefix (M : List Sig → Sig → Option (Sig × Bool)) (thr : Rat) (k K : Nat)
    (nf : Option Nat) (x : Sig) (fuel : Nat) (hk : 0 < k) (hK : k ≤ K) (hm : ∀ m, nf = some m → 0 < m) :
    (maskSift M thr k nf x fuel).1 = (maskSift M thr K nf x fuel).1.take k := by
  unfold maskSift
  rw [peelLoop_cap_prefix (cols := []) (effCap_pos k nf hk hm),
    peelLoop_cap_prefix (cols := []) (effCap_pos K nf (by omega) hm), List.take_take, effCap_min k K nf hK]

/-- every masked component is a [samples]-long column (masked extraction meeting the contract `PeelOK`) -/
theorem maskSift_col_lengths (M : List Sig → Sig → Option (Sig × Bool)) (thr : Rat) (cap : Nat) (nf : Option Nat)
    (x : Sig) (fuel : Nat) (hM : PeelOK M x.length) : ∀ c ∈ (maskSift M thr cap nf x fuel).1, c.length = x.length :=
  peel_lengths hM.len fuel

/-! ### ensemble sift -/

/-- The ensemble result is exactly as wide as its widest member … -/
theorem ensemble_cols_eq_widest (n : Nat) (members : List (List Sig)) :
    (ensembleCols n members).length = maxWidth members ∧ ∀ m ∈ members, m.length ≤ maxWidth members :=
  ⟨ensembleCols_length n members, (maxWidth_le_iff members _).mp (Nat.le_refl _)⟩

/-- … hence never wider than a bound that holds for every member. -/
theorem ensemble_cols_le_cap (n : Nat) (members : List (List Sig)) (k : Nat) (h : ∀ m ∈ members, m.length ≤ k) :
    (ensembleCols n members).length ≤ k := by
  rw [ensembleCols_length]; exact (maxWidth_le_iff members k).mpr h

/-- ensemble_sift with cap k ≥ 1 returns at most k components, for every noise set. -/
theorem ensembleSift_cols_le_cap (X : Nat → Sig → Option (Sig × Bool)) (thr : Rat) (x : Sig) (fuel k : Nat)
    (hk : 0 < k) (noises : List Sig) : (ensembleSift X thr (some k) x fuel noises).length ≤ k := by
  apply ensemble_cols_le_cap
  intro m hm
  simp only [List.mem_map] at hm
  obtain ⟨nz, _, rfl⟩ := hm
  exact sift_cols_le_cap X thr (Sig.add x nz) fuel k hk

/-- every ensemble component is a [samples]-long column -/
theorem ensemble_col_lengths (n : Nat) (members : List (List Sig)) (h : ∀ m ∈ members, ∀ c ∈ m, c.length = n) :
    ∀ c ∈ ensembleCols n members, c.length = n := by
  intro c hc
  simp only [ensembleCols, List.mem_map, List.mem_range] at hc
  obtain ⟨j, _, rfl⟩ := hc
  apply meanOf_length
  intro v hv
  simp only [List.mem_map] at hv
  obtain ⟨m, hm, rfl⟩ := hv
  exact colOr_length n m j (h m hm)

/-! ### complete ensemble sift -/

/-- complete_ensemble_sift with cap k ≥ 1 returns between 1 and k components. -/
theorem ceemd_cols_le_cap (Nx : List Sig → Sig → Sig) (thr : Rat) (x : Sig) (fuel k : Nat) (hk : 0 < k) :
    1 ≤ (ceemd Nx thr (some k) x fuel).1.length ∧ (ceemd Nx thr (some k) x fuel).1.length ≤ k := by
  -- the count starts at 1 and grows by one per round, a round being taken only below the cap
  refine ceemd_inv (P := fun cols => 1 ≤ cols.length ∧ cols.length ≤ k) ⟨Nat.le_refl 1, hk⟩ ?_ fuel
  intro cols h hcap
  have : k ≠ cols.length := fun e => hcap (e ▸ rfl)
  simp only [List.length_append, List.length_singleton]
  omega

/-- complete_ensemble_sift capped at ONE component returns exactly one — the plain ensemble step on the input itself
    (mean of the members' first IMFs of input ± noise); the loop is never entered, whatever the ensemble step, the
    threshold, the input and the fuel; the run ends "by the cap".  With cap 2 the second (and last) column is the
    ensemble step on the residual `x − first column`. -/
theorem ceemd_cap_one (Nx : List Sig → Sig → Sig) (thr : Rat) (x : Sig) (fuel : Nat) :
    ceemd Nx thr (some 1) x fuel = ([Nx [] x], .done false true false) ∧
    (ceemd Nx thr (some 2) x (fuel + 1)).1
      = [Nx [] x, Nx [Nx [] x] (Sig.sub x (Sig.vsum x.length [Nx [] x]))] := by
  refine ⟨by simp [ceemd], ?_⟩
  simp [ceemd, ceemdLoop]

/-- every complete-ensemble component is a [samples]-long column when the ensemble step (mean of first IMFs of
    residual ± noise) returns [samples]-long columns -/
theorem ceemd_col_lengths (Nx : List Sig → Sig → Sig) (thr : Rat) (cap : Option Nat) (x : Sig) (fuel : Nat)
    (hN : ∀ cols p, p.length = x.length → (Nx cols p).length = x.length) :
    ∀ c ∈ (ceemd Nx thr cap x fuel).1, c.length = x.length := by
  refine ceemd_inv (P := fun cols => ∀ c ∈ cols, c.length = x.length) ?_ ?_ fuel
  · simpa using hN [] x rfl
  · intro cols h _
    exact List.forall_mem_append.mpr ⟨h, by simpa using hN _ _ (resid_length x cols h)⟩

/-! ### second layer -/

/-- sift_second_layer returns a [samples × first-layer components × cap] array (cap defaults to the
    number of first-layer components): one block per first-layer column, each exactly `cap` wide,
    all columns [samples] long. -/
theorem secondLayer_shape (S : Nat → Sig → List Sig) (n : Nat) (ia : List Sig) (cap : Option Nat)
    (hS : ∀ k col, ∀ c ∈ S k col, c.length = n) :
    (secondLayer S n ia cap).length = ia.length ∧
    ∀ blk ∈ secondLayer S n ia cap, blk.length = cap.getD ia.length ∧ ∀ c ∈ blk, c.length = n :=
  ⟨by simp [secondLayer], secondLayer_blocks fun col _ => hS _ col⟩

/-- block i holds the second-layer sift of first-layer column i (zero columns after its last
    component): nothing is lost when that sift respects the cap. -/
theorem secondLayer_block (S : Nat → Sig → List Sig) (n : Nat) (ia : List Sig) (cap : Option Nat) (i : Nat)
    (col : Sig) (hi : ia[i]? = some col) (hle : (S (cap.getD ia.length) col).length ≤ cap.getD ia.length) :
    ∃ blk, (secondLayer S n ia cap)[i]? = some blk ∧
      (∀ j, j < (S (cap.getD ia.length) col).length → blk[j]? = (S (cap.getD ia.length) col)[j]?) ∧
      (∀ j, (S (cap.getD ia.length) col).length ≤ j → j < cap.getD ia.length → blk[j]? = some (Sig.zeros n)) := by
  refine ⟨padCols n (cap.getD ia.length) (S (cap.getD ia.length) col), ?_, ?_, ?_⟩
  · simp [secondLayer, List.getElem?_map, hi]
  · intro j hj; exact padCols_getElem hj (Nat.lt_of_lt_of_le hj hle)
  · intro j hj hk; exact padCols_zero hj hk

/-- Composition with the classic sift of this model (the default `sift_func` of `sift_second_layer`):
    with `S k col` = the `k`-capped classic sift of the column, for any extractor meeting the contract
    `ExtractorOK`, the hypotheses of the two theorems above hold by themselves (`sift_cols_le_cap`, column
    lengths of the sift): the second-layer array has the documented shape and block `i` is the second-layer
    sift of first-layer column `i` followed by zero columns — nothing is ever cut off. -/
theorem secondLayer_over_sift (X : Nat → Sig → Option (Sig × Bool)) (thr : Rat) (fuel n : Nat)
    (hX : ExtractorOK X n) (ia : List Sig) (hia : ∀ c ∈ ia, c.length = n) (cap : Option Nat) (hc : cap ≠ some 0) :
    (secondLayer (fun k col => (siftIx X thr (some k) col fuel).1) n ia cap).length = ia.length ∧
    (∀ blk ∈ secondLayer (fun k col => (siftIx X thr (some k) col fuel).1) n ia cap,
      blk.length = cap.getD ia.length ∧ ∀ c ∈ blk, c.length = n) ∧
    ∀ (i : Nat) (col : Sig), ia[i]? = some col →
      ∃ blk, (secondLayer (fun k col => (siftIx X thr (some k) col fuel).1) n ia cap)[i]? = some blk ∧
        (∀ j : Nat, j < (siftIx X thr (some (cap.getD ia.length)) col fuel).1.length →
          blk[j]? = (siftIx X thr (some (cap.getD ia.length)) col fuel).1[j]?) ∧
        (∀ j : Nat, (siftIx X thr (some (cap.getD ia.length)) col fuel).1.length ≤ j → j < cap.getD ia.length →
          blk[j]? = some (Sig.zeros n)) := by
  refine ⟨by simp [secondLayer], secondLayer_blocks fun col hcol => ?_, ?_⟩
  · obtain rfl := hia col hcol
    exact peel_lengths (fun cols => hX.len cols.length) fuel
  · intro i col hi
    exact secondLayer_block _ n ia cap i col hi
      (sift_cols_le_cap X thr col fuel _ (cap_getD_pos hc (List.getElem?_eq_some_iff.mp hi).1))

/-! ### mask second layer (`mask_sift_second_layer`) -/

/-- mask_sift_second_layer, when it returns, returns a [samples × first-layer components × cap] array (cap defaults
    to the number of first-layer components): one block for EVERY first-layer column, each exactly `cap` wide, all
    columns [samples] long — and it can only return when there is at least one mask per first-layer column. -/
theorem maskSecondLayer_shape (MS : Nat → Nat → Sig → Option (List Sig)) (n : Nat) (ia : List Sig) (nfreqs : Nat)
    (cap : Option Nat) (blocks : List (List Sig))
    (hS : ∀ i k col cols, MS i k col = some cols → ∀ c ∈ cols, c.length = n)
    (h : maskSecondLayer MS n ia nfreqs cap = .ok blocks) :
    blocks.length = ia.length ∧ ia.length ≤ nfreqs ∧
    ∀ blk ∈ blocks, blk.length = cap.getD ia.length ∧ ∀ c ∈ blk, c.length = n := by
  obtain ⟨h1, h2, _⟩ := maskSecondLayer_ok h
  exact ⟨h1, h2, maskSecondLayer_blocks h fun i col cols _ e => hS i _ col cols e⟩

/-- block i holds the mask sift of first-layer column i — taken with the masks `mask_freqs[i:]` (the highest-frequency
    mask dropped for each successive column) and the common cap — followed by zero columns. -/
theorem maskSecondLayer_block (MS : Nat → Nat → Sig → Option (List Sig)) (n : Nat) (ia : List Sig) (nfreqs : Nat)
    (cap : Option Nat) (blocks : List (List Sig)) (h : maskSecondLayer MS n ia nfreqs cap = .ok blocks)
    (i : Nat) (col : Sig) (hi : ia[i]? = some col) :
    ∃ cols blk, MS i (cap.getD ia.length) col = some cols ∧ blocks[i]? = some blk ∧
      (∀ j, j < cols.length → j < cap.getD ia.length → blk[j]? = cols[j]?) ∧
      (∀ j, cols.length ≤ j → j < cap.getD ia.length → blk[j]? = some (Sig.zeros n)) := by
  obtain ⟨cols, e1, e2⟩ := (maskSecondLayer_ok h).2.2 i col hi
  exact ⟨cols, _, e1, e2, fun j hj hk => padCols_getElem hj hk, fun j hj hk => padCols_zero hj hk⟩

/-- When does it return: exactly when there are at least as many masks as first-layer columns and no column's mask
    sift raises.  With fewer masks, the first column left without a mask (index `len(mask_freqs)`) raises IndexError
    — after the earlier columns have been sifted, provided none of their mask sifts raised. -/
theorem maskSecondLayer_ok_iff (MS : Nat → Nat → Sig → Option (List Sig)) (n : Nat) (ia : List Sig) (nfreqs : Nat)
    (cap : Option Nat) :
    ((∃ blocks, maskSecondLayer MS n ia nfreqs cap = .ok blocks) ↔
      ia.length ≤ nfreqs ∧ ∀ i col, ia[i]? = some col → MS i (cap.getD ia.length) col ≠ none) ∧
    (nfreqs < ia.length → (∀ i col, i < nfreqs → ia[i]? = some col → MS i (cap.getD ia.length) col ≠ none) →
      maskSecondLayer MS n ia nfreqs cap = .indexError nfreqs) := by
  refine ⟨⟨?_, ?_⟩, ?_⟩
  · rintro ⟨blocks, h⟩
    obtain ⟨_, hle, h3⟩ := maskSecondLayer_ok h
    refine ⟨hle, fun i col hi => ?_⟩
    obtain ⟨cols, e1, _⟩ := h3 i col hi
    simp [e1]
  · rintro ⟨hle, hm⟩
    refine maskSecondLoop_total ia 0 fun j col hj => ?_
    rw [Nat.zero_add]
    exact ⟨Nat.lt_of_lt_of_le (List.getElem?_eq_some_iff.mp hj).1 hle, hm j col hj⟩
  · intro hlt hm
    exact maskSecondLoop_exhausted ia 0 (Nat.zero_le _) (by omega)
      (fun j col hj hl => by rw [Nat.zero_add] at hj ⊢; exact hm j col hj hl)

/-- Composition with the mask sift of this model (`maskSiftCol`: `Sift.maskSift` on the masks left for the column):
    for any masked extraction meeting the contract `PeelOK`, a returning `mask_sift_second_layer` has the documented
    shape, and block `i` is the mask sift of first-layer column `i` followed by zero columns, where that sift has
    at most `cap` components and at most `len(mask_freqs) - i` (the masks left) — nothing is ever cut off. -/
theorem maskSecondLayer_over_maskSift (M : Nat → List Sig → Sig → Option (Sig × Bool)) (thr : Rat) (fuel n : Nat)
    (hM : ∀ i, PeelOK (M i) n) (ia : List Sig) (hia : ∀ c ∈ ia, c.length = n) (nfreqs : Nat) (cap : Option Nat)
    (hc : cap ≠ some 0) (blocks : List (List Sig))
    (h : maskSecondLayer (maskSiftCol M thr nfreqs fuel) n ia nfreqs cap = .ok blocks) :
    blocks.length = ia.length ∧ ia.length ≤ nfreqs ∧
    (∀ blk ∈ blocks, blk.length = cap.getD ia.length ∧ ∀ c ∈ blk, c.length = n) ∧
    ∀ (i : Nat) (col : Sig), ia[i]? = some col →
      ∃ blk, blocks[i]? = some blk ∧
        (maskSift (M i) thr (cap.getD ia.length) (some (nfreqs - i)) col fuel).1.length ≤ cap.getD ia.length ∧
        (maskSift (M i) thr (cap.getD ia.length) (some (nfreqs - i)) col fuel).1.length ≤ nfreqs - i ∧
        (∀ j : Nat, j < (maskSift (M i) thr (cap.getD ia.length) (some (nfreqs - i)) col fuel).1.length →
          blk[j]? = (maskSift (M i) thr (cap.getD ia.length) (some (nfreqs - i)) col fuel).1[j]?) ∧
        (∀ j : Nat, (maskSift (M i) thr (cap.getD ia.length) (some (nfreqs - i)) col fuel).1.length ≤ j →
          j < cap.getD ia.length → blk[j]? = some (Sig.zeros n)) := by
  obtain ⟨h1, hle, _⟩ := maskSecondLayer_ok h
  refine ⟨h1, hle, maskSecondLayer_blocks h fun i col cols hi e => ?_, fun i col hi => ?_⟩
  · obtain rfl := hia col (List.mem_of_getElem? hi)
    rw [maskSiftCol_some e]
    exact peel_lengths (hM i).len fuel
  · have hil : i < ia.length := (List.getElem?_eq_some_iff.mp hi).1
    obtain ⟨cols, blk, e1, e2, hcols, hzero⟩ := maskSecondLayer_block _ n ia nfreqs cap blocks h i col hi
    obtain rfl := maskSiftCol_some e1
    have hcap := maskSift_cols_le_cap (M i) thr (cap.getD ia.length) (some (nfreqs - i)) col fuel (cap_getD_pos hc hil)
      (fun m hm => Option.some.inj hm ▸ Nat.sub_pos_of_lt (Nat.lt_of_lt_of_le hil hle))
    exact ⟨blk, e2, hcap.1, hcap.2 _ rfl, fun j hj => hcols j hj (Nat.lt_of_lt_of_le hj hcap.1), hzero⟩

/-! ### Non-vacuity -/

def tabX : Nat → Sig → Option (Sig × Bool) := fun k p => some (p.map fun _ => (k + 1 : Rat), true)

example : (siftIx tabX 0 none [5, 7, 9] 4).1 = [[1, 1, 1], [2, 2, 2], [3, 3, 3], [4, 4, 4]] := by decide +kernel
example : (siftIx tabX 0 (some 2) [5, 7, 9] 4) = ([[1, 1, 1], [2, 2, 2]], .done false true false) := by decide +kernel
example : effCap 9 (some 3) = 3 ∧ effCap 2 (some 3) = 2 ∧ effCap 4 none = 4 := by decide +kernel
example : (maskSift (fun cols p => tabX cols.length p) 0 9 (some 3) [5, 7, 9] 6).1.length = 3 := by decide +kernel
example : ensembleCols 2 [[[1, 2], [3, 4]], [[3, 4]]] = [[2, 3], [3/2, 2]] := by decide +kernel
/-- an oscillating ensemble step (three maxima), so only the cap can stop the loop -/
def tabN : List Sig → Sig → Sig := fun cols _ => [0, 5, 0, 5, 0, 5, 0].map (· + (cols.length : Rat))
example : (ceemd tabN 0 (some 3) [0, 5, 0, 5, 0, 5, 0] 9).1.length = 3 := by decide +kernel
example : (ceemd tabN 0 (some 1) [0, 5, 0, 5, 0, 5, 0] 9).1.length = 1 := by decide +kernel
example : (ceemd tabN 0 none [0, 5, 0, 5, 0, 5, 0] 4).1.length = 5 := by decide +kernel
example : secondLayer (fun k col => [col, col].take k) 2 [[1, 2], [3, 4], [5, 6]] (some 3)
    = [[[1, 2], [1, 2], [0, 0]], [[3, 4], [3, 4], [0, 0]], [[5, 6], [5, 6], [0, 0]]] := by decide +kernel
def tabM : Nat → List Sig → Sig → Option (Sig × Bool) := fun ii cols p => some (p.map fun _ => (ii + cols.length + 1 : Rat), true)
-- three first-layer columns, three masks, default cap 3: column i keeps 3 - i masks (the staircase of the real code)
example : maskSecondLayer (maskSiftCol tabM 0 3 9) 2 [[1, 2], [3, 4], [5, 6]] 3 none
    = .ok [[[1, 1], [2, 2], [3, 3]], [[2, 2], [3, 3], [0, 0]], [[3, 3], [0, 0], [0, 0]]] := by decide +kernel
-- two masks for three columns: IndexError at column 2
example : maskSecondLayer (maskSiftCol tabM 0 2 9) 2 [[1, 2], [3, 4], [5, 6]] 2 none = .indexError 2 := by decide +kernel
-- five masks, cap 2: every block is full
example : maskSecondLayer (maskSiftCol tabM 0 5 9) 2 [[1, 2], [3, 4], [5, 6]] 5 (some 2)
    = .ok [[[1, 1], [2, 2]], [[2, 2], [3, 3]], [[3, 3], [4, 4]]] := by decide +kernel
example : ∀ i, PeelOK (tabM i) 2 :=
  fun i => ⟨fun cols p c f hp hx => by simp only [tabM, Option.some.injEq, Prod.mk.injEq] at hx; rw [← hx.1]; simpa using hp,
            fun cols p c hx => by simp [tabM] at hx⟩

end C03
