/-
  C02 — sifting commutes with rescaling, sign flip and time reversal.
  Property theorems only; helper lemmas and the vocabulary of the statements (`Mode.under`, `PadResult.smul`, `PadResult.mirror`,
  `Sift.EnvSmul`, `Mask.XSmul`, …) are in Proofs/Lemmas/Equivariance*.lean.  Exact in ℚ.

  §1–§5, the extrema / envelope layer (`EmdModel.Extrema`: `findPeaks`, `parabolic`, `paddedExtrema`, `interpEnvelope I`):
  for every signal of every length, every pad width, every mode, and every interpolant `I` meeting the stated oracle
  contract (`I.Homogeneous`, `I.Reversible`).

  §6–§10, the sift layer (`EmdModel.Sift`: `sdStop`, `rillingStop`, `getNextImf`, `sift`; `EmdModel.Mask`: `maskSift`):
  for every envelope / energy / extraction oracle meeting the stated equivariance contract, and instantiated with the
  Extrema-model envelopes (`Sift.extEnv I w parab`) through the theorems of the first layer.
-/
import Proofs.Lemmas.EquivarianceSiftRev
import Proofs.Lemmas.EquivarianceMask
import Proofs.Lemmas.ComposeGni

namespace C02
open Extrema

/-! ## 1. Extrema detection -/

/-- Rescaling by a positive constant does not move any extremum. -/
theorem findPeaks_smul_pos (c : Rat) (hc : 0 < c) (x : Sig) :
    findPeaks (Sig.smul c x) = findPeaks x ∧ findTroughs (Sig.smul c x) = findTroughs x := by
  refine ⟨findPeaks_smul_pos' hc, ?_⟩
  unfold findTroughs
  rw [Sig.neg_smul_comm, findPeaks_smul_pos' hc]

/-- Rescaling by a negative constant (in particular the sign flip `c = -1`) exchanges peaks and troughs. -/
theorem findPeaks_smul_neg (c : Rat) (hc : c < 0) (x : Sig) :
    findPeaks (Sig.smul c x) = findTroughs x ∧ findTroughs (Sig.smul c x) = findPeaks x := by
  -- `c • x = (-c) • (-x)` with `-c > 0`
  constructor
  · rw [Sig.smul_neg_eq, findPeaks_smul_pos' (c := -c) (by linarith)]; rfl
  · unfold findTroughs; rw [Sig.neg_smul_eq, findPeaks_smul_pos' (c := -c) (by linarith)]

/-- Time reversal mirrors the peaks: they are the indices `n-1-i`, in reversed order. -/
theorem findPeaks_reverse (x : Sig) :
    findPeaks x.reverse = ((findPeaks x).map fun i => x.length - 1 - i).reverse ∧
    findTroughs x.reverse = ((findTroughs x).map fun i => x.length - 1 - i).reverse := by
  refine ⟨findPeaks_reverse', ?_⟩
  unfold findTroughs
  rw [Sig.neg_reverse, findPeaks_reverse', Sig.length_neg]

/-! ## 2. Parabolic refinement: the vertex location is scale-free, the vertex height scales -/

theorem parabolic_smul (c : Rat) (hc : c ≠ 0) (y0 y1 y2 : Rat) :
    parabolic (c * y0) (c * y1) (c * y2) = ((parabolic y0 y1 y2).1, c * (parabolic y0 y1 y2).2) :=
  parabolic_smul' hc y0 y1 y2

/-! ## 3. `get_padded_extrema` under rescaling (with and without parabolic refinement) -/

/-- `c > 0`: every mode returns the same locations and `c` times the magnitudes
    (also `None` ↔ `None`; for abs_peaks `|c| = c`). -/
theorem paddedExtrema_smul_pos (c : Rat) (hc : 0 < c) (w : Nat) (m : Mode) (parab : Bool) (x : Sig) :
    paddedExtrema w m parab (Sig.smul c x) = (paddedExtrema w m parab x).smul c :=
  paddedExtrema_of_extrema (Sig.length_smul c x) (extrema_smul_pos hc)

/-- `c < 0`: the 'peaks' mode of `c • x` returns the 'troughs' mode of `x` scaled by `c` and vice versa;
    the 'abs_peaks' mode is scaled by `|c|`. -/
theorem paddedExtrema_smul_neg (c : Rat) (hc : c < 0) (w : Nat) (parab : Bool) (x : Sig) :
    paddedExtrema w .peaks parab (Sig.smul c x) = (paddedExtrema w .troughs parab x).smul c ∧
    paddedExtrema w .troughs parab (Sig.smul c x) = (paddedExtrema w .peaks parab x).smul c ∧
    paddedExtrema w .absPeaks parab (Sig.smul c x) = (paddedExtrema w .absPeaks parab x).smul (Rat.abs' c) :=
  ⟨paddedExtrema_of_extrema (Sig.length_smul c x) (extrema_smul_neg hc),
   paddedExtrema_of_extrema (Sig.length_smul c x) (extrema_smul_neg hc),
   paddedExtrema_of_extrema (Sig.length_smul c x) (extrema_smul_neg hc)⟩

/-- Both signs at once: locations unchanged, magnitudes scaled by `c` (`|c|` for abs_peaks), the kind of
    extremum swapped when `c < 0`. -/
theorem paddedExtrema_smul (c : Rat) (hc : c ≠ 0) (w : Nat) (m : Mode) (parab : Bool) (x : Sig) :
    paddedExtrema w m parab (Sig.smul c x) = (paddedExtrema w (m.under c) parab x).smul (m.factor c) :=
  paddedExtrema_of_extrema (Sig.length_smul c x) (extrema_smul hc)

/-! ## 4. `get_padded_extrema` under time reversal (integer locations) -/

/-- The loop test `max(locs) < n or min(locs) >= 0` is symmetric under mirroring when the
    (strictly ordered) locations are integers: a last location `≥ n` mirrors to a first location `≤ -1`. -/
theorem loopTest_mirror_symmetric (n : Nat) (l : List Rat) (hne : l ≠ []) (hs : l.Pairwise (· < ·)) (hi : IntLocs l) :
    needsMore n (mirror n l) = needsMore n l := needsMore_mirror l hne hs hi

/-- …and it is not symmetric on fractional locations (why the reversal theorems below are stated for
    unrefined extrema): a first location in `(-1, 0)` ends the loop, its mirror image in `(n-1, n)` does not. -/
theorem loopTest_fractional_asymmetric_witness :
    ∃ (n : Nat) (l : List Rat), l.Pairwise (· < ·) ∧ needsMore n l = false ∧ needsMore n (mirror n l) = true :=
  ⟨2, [-(1 / 2), 5 / 2], by simp only [List.pairwise_cons, List.mem_singleton, forall_eq, List.not_mem_nil,
      false_imp_iff, implies_true, List.Pairwise.nil, and_true]; decide +kernel, by decide +kernel, by decide +kernel⟩

/-- Odd-reflection padding (`np.pad` of any width, all its reflection chunks) commutes with mirroring. -/
theorem padOdd_mirror_symmetric (n w : Nat) (l : List Rat) (hl : 2 ≤ l.length) :
    padOdd w (mirror n l) = mirror n (padOdd w l) := padOdd_mirror n w l hl

/-- Without refinement, the padded extrema of the reversed signal are the mirror image of the padded extrema:
    locations `n-1-v` in increasing order, magnitudes reversed — every mode, every pad width, every length
    (`None` ↔ `None`). -/
theorem paddedExtrema_reverse (w : Nat) (m : Mode) (x : Sig) :
    paddedExtrema w m false x.reverse = (paddedExtrema w m false x).mirror x.length :=
  paddedExtrema_reverse' m

/-- With parabolic refinement the statement is false (and not demanded by the property, whose quantifier ranges over
    padding widths, not over the refinement flag): for `x = [0,2,1,3,2]` the refined peaks sit at `7/6, 19/6`; one
    round of padding gives `-5/6 … 31/6`, which ends the loop (`31/6 ≥ 5`, `-5/6 < 0`), whereas the mirror image
    `-7/6 … 29/6` of the reversed signal does not (`29/6 < 5`) and is padded once more.
    The real `get_padded_extrema` does the same on this input (corpus case of stream `extrema`). -/
theorem paddedExtrema_reverse_parabolic_witness :
    ∃ (x : Sig) (w : Nat),
      paddedExtrema w .peaks true x = .ok [-5/6, 7/6, 19/6, 31/6] [49/24, 49/24, 73/24, 73/24] ∧
      paddedExtrema w .peaks true x.reverse =
        .ok [-19/6, -7/6, 5/6, 17/6, 29/6, 41/6] [73/24, 73/24, 73/24, 49/24, 49/24, 49/24] ∧
      paddedExtrema w .peaks true x.reverse ≠ (paddedExtrema w .peaks true x).mirror x.length :=
  ⟨[0, 2, 1, 3, 2], 1, by decide +kernel, by decide +kernel, by decide +kernel⟩

/-! ## 5. `interp_envelope` -/

/-- `c > 0`, homogeneous interpolant: every envelope of `c • x` is `c` times that of `x`
    (with or without refinement; `None`, the length error — all outcomes correspond). -/
theorem interpEnvelope_smul_pos (I : Interp) (hI : I.Homogeneous) (c : Rat) (hc : 0 < c) (em : EMode) (w : Nat)
    (parab : Bool) (x : Sig) :
    interpEnvelope I em w parab (Sig.smul c x) = (interpEnvelope I em w parab x).smul c := by
  rw [interpEnvelope_smul' I hI (ne_of_gt hc), EMode.under, if_pos hc, EMode.factor, Mode.factor_pos hc]

/-- `c < 0`: the upper envelope of `c • x` is `c` times the lower envelope of `x` and vice versa;
    the combined-mode envelope scales by `|c|`. -/
theorem interpEnvelope_smul_neg (I : Interp) (hI : I.Homogeneous) (c : Rat) (hc : c < 0) (w : Nat) (parab : Bool) (x : Sig) :
    interpEnvelope I .upper w parab (Sig.smul c x) = (interpEnvelope I .lower w parab x).smul c ∧
    interpEnvelope I .lower w parab (Sig.smul c x) = (interpEnvelope I .upper w parab x).smul c ∧
    interpEnvelope I .combined w parab (Sig.smul c x) = (interpEnvelope I .combined w parab x).smul (Rat.abs' c) := by
  simp only [interpEnvelope_smul' I hI (ne_of_lt hc), EMode.under, if_neg (not_lt.mpr (le_of_lt hc))]
  exact ⟨rfl, rfl, rfl⟩

/-- Both signs at once. -/
theorem interpEnvelope_smul (I : Interp) (hI : I.Homogeneous) (c : Rat) (hc : c ≠ 0) (em : EMode) (w : Nat)
    (parab : Bool) (x : Sig) :
    interpEnvelope I em w parab (Sig.smul c x) = (interpEnvelope I (em.under c) w parab x).smul (em.factor c) :=
  interpEnvelope_smul' I hI hc em

/-- Reversible interpolant, pad width ≥ 1, no refinement: the envelope of the reversed signal is the
    reversed envelope (built on the mirrored extrema). -/
theorem interpEnvelope_reverse (I : Interp) (hI : I.Reversible) (em : EMode) (w : Nat) (hw : 1 ≤ w) (x : Sig) :
    interpEnvelope I em w false x.reverse = (interpEnvelope I em w false x).mirror x.length :=
  interpEnvelope_reverse' I hI em hw

/-- What the sift uses: the local mean `(upper + lower)/2` of `c • x` is `c` times that of `x`, for either sign —
    for `c < 0` the two envelopes trade places, their mean does not care. -/
theorem envelope_mean_smul (I : Interp) (hI : I.Homogeneous) (c : Rat) (hc : c ≠ 0) (w : Nat) (parab : Bool) (x : Sig)
    (U L lu eu ll el : List Rat)
    (hU : interpEnvelope I .upper w parab x = .ok U lu eu) (hL : interpEnvelope I .lower w parab x = .ok L ll el) :
    ∃ U' L' lu' eu' ll' el', interpEnvelope I .upper w parab (Sig.smul c x) = .ok U' lu' eu' ∧
      interpEnvelope I .lower w parab (Sig.smul c x) = .ok L' ll' el' ∧
      Sig.mean2 U' L' = Sig.smul c (Sig.mean2 U L) := by
  rcases lt_or_gt_of_ne hc with h | h
  · obtain ⟨h1, h2, _⟩ := interpEnvelope_smul_neg I hI c h w parab x
    exact ⟨_, _, _, _, _, _, by rw [h1, hL]; rfl, by rw [h2, hU]; rfl, by rw [Sig.smul_mean2, Sig.mean2_comm]⟩
  · exact ⟨_, _, _, _, _, _, by rw [interpEnvelope_smul_pos I hI c h, hU]; rfl,
      by rw [interpEnvelope_smul_pos I hI c h, hL]; rfl, Sig.smul_mean2 c U L⟩

/-! ## 6. The stopping rules are scale-free (exact in ℚ, any `c ≠ 0`) -/

/-- SD rule: `Σ(h − x1)² / Σh² < thr` takes the same value on `c • h`, `c • x1`. -/
theorem sdMetric_smul (c : Rat) (hc : c ≠ 0) (thr : Rat) (h x1 : Sig) :
    Sift.sdStop thr (Sig.smul c h) (Sig.smul c x1) = Sift.sdStop thr h x1 := Sift.sdStop_smul' hc thr h x1

/-- Rilling rule: unchanged when both envelopes are scaled by `c`, also when they additionally trade places
    (which is what a negative `c` does). -/
theorem rillingStop_smul (c : Rat) (hc : c ≠ 0) (a b t : Rat) (U L : Sig) :
    Sift.rillingStop a b t (Sig.smul c U) (Sig.smul c L) = Sift.rillingStop a b t U L ∧
    Sift.rillingStop a b t (Sig.smul c L) (Sig.smul c U) = Sift.rillingStop a b t U L :=
  ⟨Sift.rillingStop_smul' hc a b t U L, by rw [Sift.rillingStop_smul' hc, Sift.rillingStop_swap]⟩

/-- Fixed rule: depends on the iteration count only, on no signal at all. -/
theorem fixedStop_indep (k m : Nat) (h x1 U L h' x1' U' L' : Sig) :
    Sift.stopTest .fixed k m h x1 U L = Sift.stopTest .fixed k m h' x1' U' L' := rfl

/-! ## 7. Single-IMF extraction -/

/-- `get_next_imf (c • x) = c • get_next_imf x` for every `c ≠ 0`, every stopping rule, step size and iteration limit:
    same exit (stopped / extrema vanished / convergence error), same iteration count, same continue flag —
    for every envelope oracle that is equivariant (`EnvSmul`) and every scale-free energy oracle. -/
theorem getNextImf_smul (c : Rat) (hc : c ≠ 0) (E E' : Nat → Sig → Sift.Env) (hE : Sift.EnvSmul c E E')
    (D D' : Sig → Sig → Rat) (hD : Sift.EnergySmul c D D') (o : Sift.ImfOpts) (x : Sig) :
    Sift.getNextImfIx E' D' o (Sig.smul c x) = (Sift.getNextImfIx E D o x).smul c ∧
    Sift.run E' o (Sig.smul c x) = (Sift.run E o x).smul c :=
  ⟨Sift.getNextImfIx_smul hc hE hD x, Sift.loop_smul hc hE _ _ x⟩

/-- …in particular with the envelopes of the Extrema model (any pad width ≥ 1, with or without parabolic refinement),
    under the oracle contract `I.Homogeneous`.  `1 ≤ w` is the range in which `Sift.extEnv` represents the code:
    there `interp_envelope` never raises (`C05.interpEnvelope_never_raises`, `C01.pipeline_envelopes_faithful`); at
    `w = 0` the code rejects every oscillatory input (`C05.interpEnvelope_pad0_raises`) and `extEnv`, which maps a
    raising envelope to "no envelope", would describe a state the code never reaches. -/
theorem getNextImf_smul_envelope (I : Extrema.Interp) (hI : I.Homogeneous) (c : Rat) (hc : c ≠ 0) (w : Nat) (_hw : 1 ≤ w)
    (parab : Bool) (D : Sig → Sig → Rat) (hD : Sift.EnergySmul c D D) (o : Sift.ImfOpts) (x : Sig) :
    Sift.getNextImf (Sift.extEnv I w parab) D o (Sig.smul c x) = (Sift.getNextImf (Sift.extEnv I w parab) D o x).smul c :=
  Sift.getNextImfIx_smul hc (Sift.extEnv_smul I hI hc w parab) hD x

/-- `get_next_imf (reversed x) = reversed get_next_imf x` for every oracle that commutes with reversal and returns
    envelopes of the length of its argument. -/
theorem getNextImf_reverse (E E' : Nat → Sig → Sift.Env) (hE : Sift.EnvRev E E') (hLen : Sift.EnvLen E)
    (D D' : Sig → Sig → Rat) (hD : Sift.EnergyRev D D') (o : Sift.ImfOpts) (x : Sig) :
    Sift.getNextImfIx E' D' o x.reverse = (Sift.getNextImfIx E D o x).rev :=
  Sift.getNextImfIx_reverse hE hLen hD x

/-- …in particular with the unrefined Extrema-model envelopes, pad width ≥ 1, under `I.Reversible`. -/
theorem getNextImf_reverse_envelope (I : Extrema.Interp) (hI : I.Reversible) (w : Nat) (hw : 1 ≤ w)
    (D : Sig → Sig → Rat) (hD : Sift.EnergyRev D D) (o : Sift.ImfOpts) (x : Sig) :
    Sift.getNextImf (Sift.extEnv I w false) D o x.reverse = (Sift.getNextImf (Sift.extEnv I w false) D o x).rev :=
  Sift.getNextImfIx_reverse (Sift.extEnv_reverse I hI w hw) (Sift.extEnv_len I w false) hD x

/-! ## 8. The classic sift -/

/-- `sift` with the threshold scaled by `|c|`: every column is multiplied by `c`, same number of columns, same exit.
    (The absolute `sift_thresh` is the one test in the code that is not scale-free.) -/
theorem sift_smul (c : Rat) (hc : c ≠ 0) (X X' : Sig → Option (Sig × Bool))
    (hX : ∀ p, X' (Sig.smul c p) = (X p).map fun r => (Sig.smul c r.1, r.2))
    (thr : Rat) (cap : Option Nat) (x : Sig) (fuel : Nat) :
    Sift.sift X' (Rat.abs' c * thr) cap (Sig.smul c x) fuel
      = ((Sift.sift X thr cap x fuel).1.map (Sig.smul c), (Sift.sift X thr cap x fuel).2) :=
  Sift.peelLoop_smul hc (fun _ p => X p) (fun _ p => X' p) (fun _ p => hX p) thr cap x fuel [] x

/-- Corollary for the unscaled threshold: if no column of the base run has an abs-sum below `thr` or below `thr/|c|`
    (the threshold never fires in either run — the property's regime of order-one amplitudes), the same
    `sift_thresh` gives `sift (c • x) = c • sift x`. -/
theorem sift_smul_thr_silent (c : Rat) (hc : c ≠ 0) (X X' : Sig → Option (Sig × Bool))
    (hX : ∀ p, X' (Sig.smul c p) = (X p).map fun r => (Sig.smul c r.1, r.2))
    (thr : Rat) (cap : Option Nat) (x : Sig) (fuel : Nat)
    (hsilent : ∀ v ∈ (Sift.sift X thr cap x fuel).1, thr ≤ Sig.absSum v ∧ thr ≤ Rat.abs' c * Sig.absSum v) :
    Sift.sift X' thr cap (Sig.smul c x) fuel
      = ((Sift.sift X thr cap x fuel).1.map (Sig.smul c), (Sift.sift X thr cap x fuel).2) := by
  have hscaled := sift_smul c hc X X' hX thr cap x fuel
  rw [← hscaled]
  apply Sift.peelLoop_thr_congr
  intro v hv
  unfold Sift.sift Sift.siftIx Sift.siftLoop at hscaled hsilent
  rw [hscaled, List.mem_map] at hv
  obtain ⟨u, hu, rfl⟩ := hv
  obtain ⟨h1, h2⟩ := hsilent u hu
  -- neither threshold fires on `c • u`
  rw [decide_eq_false (mt (Sig.absSum_lt_smul c hc u thr).mp (not_lt.mpr h1)),
    decide_eq_false (by rw [Sig.absSum_smul]; exact not_lt.mpr h2)]

/-- …with `get_next_imf` over the Extrema-model envelopes (pad width ≥ 1, see `getNextImf_smul_envelope`) as the
    extractor. -/
theorem sift_smul_envelope (I : Extrema.Interp) (hI : I.Homogeneous) (c : Rat) (hc : c ≠ 0) (w : Nat) (_hw : 1 ≤ w)
    (parab : Bool) (D : Sig → Sig → Rat) (hD : Sift.EnergySmul c D D) (o : Sift.ImfOpts) (thr : Rat) (cap : Option Nat) (x : Sig) (fuel : Nat) :
    Sift.sift (Sift.extractor (Sift.extEnv I w parab) D o) (Rat.abs' c * thr) cap (Sig.smul c x) fuel
      = ((Sift.sift (Sift.extractor (Sift.extEnv I w parab) D o) thr cap x fuel).1.map (Sig.smul c),
         (Sift.sift (Sift.extractor (Sift.extEnv I w parab) D o) thr cap x fuel).2) :=
  sift_smul c hc _ _ (fun p => Sift.extractorIx_smul hc (Sift.extEnv_smul I hI hc w parab) hD p) thr cap x fuel

/-- `sift (reversed x)` is `sift x` with every column reversed (same threshold: the abs-sum does not see the direction
    of time), for every length-preserving extractor that commutes with reversal. -/
theorem sift_reverse (X X' : Sig → Option (Sig × Bool)) (x : Sig)
    (hX : ∀ p, p.length = x.length → X' p.reverse = (X p).map fun r => (r.1.reverse, r.2))
    (hLen : ∀ p v f, p.length = x.length → X p = some (v, f) → v.length = x.length)
    (thr : Rat) (cap : Option Nat) (fuel : Nat) :
    Sift.sift X' thr cap x.reverse fuel
      = ((Sift.sift X thr cap x fuel).1.map List.reverse, (Sift.sift X thr cap x fuel).2) :=
  Sift.peelLoop_reverse (fun _ p => X p) (fun _ p => X' p) x (fun _ p hp => hX p hp) (fun _ p v f hp h => hLen p v f hp h)
    thr cap fuel [] x rfl (by simp)

/-- …with `get_next_imf` over the unrefined Extrema-model envelopes (pad width ≥ 1) as the extractor. -/
theorem sift_reverse_envelope (I : Extrema.Interp) (hI : I.Reversible) (w : Nat) (hw : 1 ≤ w)
    (D : Sig → Sig → Rat) (hD : Sift.EnergyRev D D) (o : Sift.ImfOpts) (thr : Rat) (cap : Option Nat) (x : Sig) (fuel : Nat) :
    Sift.sift (Sift.extractor (Sift.extEnv I w false) D o) thr cap x.reverse fuel
      = ((Sift.sift (Sift.extractor (Sift.extEnv I w false) D o) thr cap x fuel).1.map List.reverse,
         (Sift.sift (Sift.extractor (Sift.extEnv I w false) D o) thr cap x fuel).2) := by
  apply sift_reverse
  · intro p _
    exact Sift.extractorIx_reverse (Sift.extEnv_reverse I hI w hw) (Sift.extEnv_len I w false) hD p
  · intro p v f hp h
    rw [Sift.imf_length (Sift.extEnv_len I w false) (Sift.extractorIx_imf h), hp]

/-! ## 9. The masked sift with ratio amplitudes -/

/-- `c > 0`, amplitude mode `ratio_sig` or `ratio_imf`, any number of phases, any worker schedule: with the threshold
    scaled by `c`, `mask_sift (c • x)` returns `c` times every column and the same mask frequencies —
    given an equivariant single-IMF extraction and `std (c • y) = |c| · std y`. -/
theorem maskSift_ratio_smul_pos (c : Rat) (hc : 0 < c) (σ : Nat → Pool.Schedule) (nproc : Nat)
    (X X' : Sig → Sig × Bool) (hX : Mask.XSmul c X X') (unit : Rat → Nat → Nat → Sig) (std : Sig → Rat)
    (hstd : Mask.StdAbsHom c std) (cfg : Mask.Cfg) (hmode : cfg.mode ≠ .abs) (hσ : ∀ k, (σ k).Valid cfg.p nproc)
    (src : Mask.FreqSrc) (cap : Nat) (x : Sig) :
    Mask.maskSift σ X' unit std (Mask.scaleCfg c cfg) src cap (Sig.smul c x)
      = (Mask.maskSift σ X unit std cfg src cap x).map fun r => (r.1.map (Sig.smul c), r.2) :=
  Mask.maskSift_smul (ne_of_gt hc) σ nproc hX hstd hmode hσ id (by simp)
    (fun f A i _ => Mask.layerMask_pos hc f A cfg.p i) src cap

/-- `c < 0`: the same law when the number of phases is even and the mask table is closed under the half-turn
    (mask `i + p/2` = −mask `i`, as for `cos(2πft + 2πi/p)`): the masked signals of `c • x` are `c` times the masked
    signals of `x` in a permuted order, and the phase average does not see the order.
    (For odd `nphases` the phase set is not closed under +π and the law is false of the masking rule itself.) -/
theorem maskSift_ratio_smul_neg (c : Rat) (hc : c < 0) (σ : Nat → Pool.Schedule) (nproc : Nat)
    (X X' : Sig → Sig × Bool) (hX : Mask.XSmul c X X') (unit : Rat → Nat → Nat → Sig) (std : Sig → Rat)
    (hstd : Mask.StdAbsHom c std) (cfg : Mask.Cfg) (hmode : cfg.mode ≠ .abs) (hσ : ∀ k, (σ k).Valid cfg.p nproc)
    (heven : cfg.p % 2 = 0) (hu : Mask.ShiftClosed unit cfg.p)
    (src : Mask.FreqSrc) (cap : Nat) (x : Sig) :
    Mask.maskSift σ X' unit std (Mask.scaleCfg c cfg) src cap (Sig.smul c x)
      = (Mask.maskSift σ X unit std cfg src cap x).map fun r => (r.1.map (Sig.smul c), r.2) := by
  have hperm : ((List.range cfg.p).map fun i => (i + cfg.p / 2) % cfg.p).Perm (List.range cfg.p) := by
    have := Mask.shift_perm (cfg.p / 2)
    rwa [show cfg.p / 2 + cfg.p / 2 = cfg.p by omega] at this
  exact Mask.maskSift_smul (ne_of_lt hc) σ nproc hX hstd hmode hσ _ hperm
    (fun f A i hi => Mask.layerMask_neg hc cfg.p hu f A i hi) src cap

/-- `c < 0` with the documented waveform (`Mask.unitOf cosTurn n`: sample `t` of unit mask `i` is `cosTurn (f·t + i/p)`,
    C07.mask_phase_grid): the half-turn closure is no hypothesis on a mask table here — it follows
    (`Mask.unitOf_shiftClosed`) from the one oracle fact `cos(2π(x + 1/2)) = −cos(2πx)` and the even number of phases. -/
theorem maskSift_ratio_smul_neg_cos (c : Rat) (hc : c < 0) (σ : Nat → Pool.Schedule) (nproc : Nat)
    (X X' : Sig → Sig × Bool) (hX : Mask.XSmul c X X') (cosTurn : Rat → Rat)
    (hcos : ∀ x, cosTurn (x + 1 / 2) = - cosTurn x) (n : Nat) (std : Sig → Rat)
    (hstd : Mask.StdAbsHom c std) (cfg : Mask.Cfg) (hmode : cfg.mode ≠ .abs) (hσ : ∀ k, (σ k).Valid cfg.p nproc)
    (heven : cfg.p % 2 = 0) (src : Mask.FreqSrc) (cap : Nat) (x : Sig) :
    Mask.maskSift σ X' (Mask.unitOf cosTurn n) std (Mask.scaleCfg c cfg) src cap (Sig.smul c x)
      = (Mask.maskSift σ X (Mask.unitOf cosTurn n) std cfg src cap x).map fun r => (r.1.map (Sig.smul c), r.2) :=
  maskSift_ratio_smul_neg c hc σ nproc X X' hX _ std hstd cfg hmode hσ heven
    (Mask.unitOf_shiftClosed cosTurn hcos n cfg.p heven) src cap x

/-! ## Non-vacuity: the hypotheses are met on concrete, non-trivial inputs -/

/-- an interpolant meeting both oracle contracts: the sum of the first and the last magnitude -/
def endsInterp : Interp := { eval := fun _ mags _ => mags.head?.getD 0 + mags.getLast?.getD 0 }

theorem endsInterp_homogeneous : endsInterp.Homogeneous := by
  intro c locs mags t _ _ _
  have e : ∀ o : Option Rat, (o.map (c * ·)).getD 0 = c * o.getD 0 := fun o => by cases o <;> simp
  simp only [endsInterp, Sig.smul, List.head?_map, List.getLast?_map, e, mul_add]

example : endsInterp.Homogeneous := endsInterp_homogeneous

example : endsInterp.Reversible := by
  intro n locs mags t _ _
  simp only [endsInterp, List.head?_reverse, List.getLast?_reverse]
  ring

-- sign flip and rescaling: the peaks of -2•x are the troughs of x, magnitudes times -2
example : findPeaks (Sig.smul (-2) [0, 1, 0, 2, 0, 1, 1, 0]) = [2, 4] := by decide +kernel
example : findTroughs [0, 1, 0, 2, 0, 1, 1, 0] = [2, 4] := by decide +kernel
example : paddedExtrema 2 .peaks false (Sig.smul (-2) [0, 1, -1, 2, 0, 1, 1, 0]) =
    .ok [-2, 0, 2, 4, 6, 8] [2, 2, 2, 0, 0, 0] := by decide +kernel
example : paddedExtrema 2 .troughs false [0, 1, -1, 2, 0, 1, 1, 0] =
    .ok [-2, 0, 2, 4, 6, 8] [-1, -1, -1, 0, 0, 0] := by decide +kernel
-- refinement: locations unchanged under scaling by -3, heights scaled
example : paddedExtrema 1 .troughs true (Sig.smul (-3) [0, 3, 1, 2, 1/2]) =
    .ok [-5/2, -7/10, 11/10, 29/10, 47/10, 13/2] [-363/40, -363/40, -363/40, -483/80, -483/80, -483/80] := by decide +kernel
-- time reversal of an asymmetric signal: peaks 1, 3 (n = 8) mirror to 4, 6; the plateau 5,6 ↦ 1,2 stays no peak
example : findPeaks [0, 1, 0, 2, 0, 1, 1, 0] = [1, 3] := by decide +kernel
example : findPeaks [0, 1, 0, 2, 0, 1, 1, 0].reverse = [4, 6] := by decide +kernel
example : paddedExtrema 1 .peaks false [0, 1, 0, 2, 0, 1, 1, 0] = .ok [-5, -3, -1, 1, 3, 5, 7, 9] [1, 1, 1, 1, 2, 2, 2, 2] := by
  decide +kernel
example : paddedExtrema 1 .peaks false [0, 1, 0, 2, 0, 1, 1, 0].reverse = .ok [-2, 0, 2, 4, 6, 8, 10, 12] [2, 2, 2, 2, 1, 1, 1, 1] := by
  decide +kernel
-- envelopes exist on both sides of the equations
example : interpEnvelope endsInterp .upper 1 false [0, 1, 0, 2, 0, 1, 1, 0] =
    .ok [3, 3, 3, 3, 3, 3, 3, 3] [-5, -3, -1, 1, 3, 5, 7, 9] [1, 1, 1, 1, 2, 2, 2, 2] := by decide +kernel
example : interpEnvelope endsInterp .lower 1 false (Sig.smul (-1) [0, 1, 0, 2, 0, 1, 1, 0]) =
    .ok [-3, -3, -3, -3, -3, -3, -3, -3] [-5, -3, -1, 1, 3, 5, 7, 9] [-1, -1, -1, -1, -2, -2, -2, -2] := by decide +kernel

/-! ### the oracle contracts of the sift layer are satisfiable -/

-- the Extrema-model envelopes are an equivariant oracle of `getNextImf` (both signs)
example : Sift.EnvSmul (-3) (fun _ => Sift.extEnv endsInterp 2 true) (fun _ => Sift.extEnv endsInterp 2 true) :=
  Sift.extEnv_smul endsInterp endsInterp_homogeneous (by decide +kernel) 2 true

/-- an energy oracle that is a ratio of energies -/
def ratioEnergy : Sig → Sig → Rat := fun a b => Sig.sumSq a / Sig.sumSq b

example (c : Rat) (hc : c ≠ 0) : Sift.EnergySmul c ratioEnergy ratioEnergy := by
  intro a b
  simp only [ratioEnergy, Sig.sumSq_smul]
  exact mul_div_mul_left _ _ (mul_ne_zero hc hc)

example : Sift.EnergyRev ratioEnergy ratioEnergy := by
  intro a b; simp only [ratioEnergy, Sig.sumSq_reverse]

-- a concrete extraction over the Extrema-model envelopes (one mean removal), and the same on -2 • x
example : Sift.getNextImf (Sift.extEnv endsInterp 1 false) ratioEnergy
    { stop := .fixed, step := 1, maxIters := 1, energyThresh := none } [0, 1, -1, 2, 0, 1, -2, 0]
    = .imf [1/2, 3/2, -1/2, 5/2, 1/2, 3/2, -3/2, 1/2] true := by decide +kernel
example : Sift.getNextImf (Sift.extEnv endsInterp 1 false) ratioEnergy
    { stop := .fixed, step := 1, maxIters := 1, energyThresh := none } (Sig.smul (-2) [0, 1, -1, 2, 0, 1, -2, 0])
    = .imf [-1, -3, 1, -5, -1, -3, 3, -1] true := by decide +kernel

-- mask layer: an equivariant extractor, an absolutely homogeneous deviation, a two-phase mask table closed under +π
example (c : Rat) : Mask.XSmul c (fun y => (y, true)) (fun y => (y, true)) := fun _ => rfl
example (c : Rat) : Mask.StdAbsHom c Sig.absSum := fun y => Sig.absSum_smul c y
example : Mask.ShiftClosed (fun _ _ i => if i % 2 = 0 then [1, -1, 1] else [-1, 1, -1]) 2 := by
  intro f i hi
  have : i = 0 ∨ i = 1 := by omega
  rcases this with rfl | rfl <;> simp [Sig.neg]

/-! ## 10. The whole masked pipeline (composition of §3, §7 and §9 with the C07 / C04 models)

  The extraction oracle `X` of §9 is instantiated with `get_next_imf` of the Sift model over the envelopes of
  the Extrema model (`ComposeGni.gniX (Sift.extEnv I w parab) D o`): the contract `Mask.XSmul` is then a
  theorem (`ComposeGni.gniX_XSmul`, from §7), and only the interpolant, the energy oracle and `np.std` remain
  abstract — the model of get_padded_extrema → interp_envelope → get_next_imf → get_next_imf_mask → mask_sift. -/

/-- `mask_sift (c • x) = c • mask_sift x` for the composed pipeline, any `c ≠ 0` (ratio amplitude modes, threshold
    scaled by `|c|`; for `c < 0` an even number of phases and a mask table closed under the half turn; pad width ≥ 1,
    the range in which `Sift.extEnv` represents the code, see `getNextImf_smul_envelope`). -/
theorem maskSift_pipeline_smul (I : Extrema.Interp) (hI : I.Homogeneous) (c : Rat) (hc : c ≠ 0) (w : Nat) (_hw : 1 ≤ w)
    (parab : Bool)
    (D : Sig → Sig → Rat) (hD : Sift.EnergySmul c D D) (o : Sift.ImfOpts)
    (σ : Nat → Pool.Schedule) (nproc : Nat) (unit : Rat → Nat → Nat → Sig) (std : Sig → Rat)
    (hstd : Mask.StdAbsHom c std) (cfg : Mask.Cfg) (hmode : cfg.mode ≠ .abs) (hσ : ∀ k, (σ k).Valid cfg.p nproc)
    (hneg : c < 0 → cfg.p % 2 = 0 ∧ Mask.ShiftClosed unit cfg.p)
    (src : Mask.FreqSrc) (cap : Nat) (x : Sig) :
    Mask.maskSift σ (ComposeGni.gniX (Sift.extEnv I w parab) D o) unit std (Mask.scaleCfg c cfg) src cap (Sig.smul c x)
      = (Mask.maskSift σ (ComposeGni.gniX (Sift.extEnv I w parab) D o) unit std cfg src cap x).map
          fun r => (r.1.map (Sig.smul c), r.2) := by
  have hX : Mask.XSmul c (ComposeGni.gniX (Sift.extEnv I w parab) D o) (ComposeGni.gniX (Sift.extEnv I w parab) D o) :=
    ComposeGni.gniX_XSmul c hc _ _ (Sift.extEnv_smul I hI hc w parab) D D hD
  rcases lt_or_gt_of_ne hc with hlt | hgt
  · obtain ⟨heven, hu⟩ := hneg hlt
    exact maskSift_ratio_smul_neg c hlt σ nproc _ _ hX unit std hstd cfg hmode hσ heven hu src cap x
  · exact maskSift_ratio_smul_pos c hgt σ nproc _ _ hX unit std hstd cfg hmode hσ src cap x

end C02
