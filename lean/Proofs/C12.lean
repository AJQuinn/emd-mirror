/-
  C12 — cycle detection partitions the phase series at its phase wraps.
  Property theorems only (helper lemmas: Proofs/Lemmas/Cycles*.lean).
  All statements are about the executable model `EmdModel.Cycles`.  The partition theorems and the
  `code_model_…` theorems hold for every sample type, every wrap predicate, every acceptance test and
  every input; the theorems about `getCycleVector` / `getCycleVectorOpt` instantiate them at the public
  entry point (rational phases with a Boolean mask, the wrap predicate `|Δphase| > phase_step`).
-/
import Proofs.Lemmas.Cycles
import Proofs.Lemmas.CyclesIdx
import Proofs.Lemmas.CyclesSlices
import Proofs.Lemmas.CyclesStep

namespace C12
open Cycles

variable {α : Type}

/-- The runs, in temporal order, concatenate to the input: a partition into contiguous blocks. -/
theorem segs_partition (w : α → α → Bool) (acc : List α → Bool) (xs : List α) :
    ((cvSegs w acc xs).map (·.1)).flatten = xs := by
  rw [cvSegs_runs, runsBy_flatten]

/-- No run is empty (so the implementation never evaluates a criterion on an empty segment). -/
theorem segs_nonempty (w : α → α → Bool) (acc : List α → Bool) (xs : List α) :
    ∀ s ∈ cvSegs w acc xs, s.1 ≠ [] := by
  intro s hs
  exact runsBy_ne_nil _ (mem_runsBy_of_mem_cvSegs hs)

/-- A run contains no internal wrap. -/
theorem segs_no_internal_wrap (w : α → α → Bool) (acc : List α → Bool) (xs : List α) :
    ∀ s ∈ cvSegs w acc xs, NoWrap w s.1 := by
  intro s hs
  exact runsBy_noWrap _ (mem_runsBy_of_mem_cvSegs hs)

/-- Consecutive runs are separated by a wrap: a run begins at a wrap or at the start of the
    recording and ends just before a wrap or at the end of the recording. -/
theorem segs_boundaries_are_wraps (w : α → α → Bool) (acc : List α → Bool) (xs : List α) :
    WrapBetween w ((cvSegs w acc xs).map (·.1)) := by
  rw [cvSegs_runs]; exact runsBy_wrapBetween

/-- The labels of the labelled runs, in temporal order, are exactly 0, 1, …, K-1. -/
theorem labels_sequential (w : α → α → Bool) (acc : List α → Bool) (xs : List α) :
    (cvSegs w acc xs).filterMap (·.2) = List.range (nCycles (cvSegs w acc xs)) := cvSegs_labels

/-- One label per input sample. -/
theorem cv_length (w : α → α → Bool) (acc : List α → Bool) (xs : List α) :
    (paint (cvSegs w acc xs)).length = xs.length := paint_cvSegs_length

/-- Every sample label is -1 or one of 0..K-1. -/
theorem cv_values (w : α → α → Bool) (acc : List α → Bool) (xs : List α) :
    ∀ l ∈ paint (cvSegs w acc xs), l = -1 ∨ (0 ≤ l ∧ l < (nCycles (cvSegs w acc xs) : Int)) :=
  paint_values

/-- All cycles requested (acceptance always true) and at least one wrap: no sample is left out. -/
theorem cv_all_cover (w : α → α → Bool) (xs : List α) (hw : 2 ≤ (runsBy w xs).length) :
    ∀ l ∈ paint (cvSegs w (fun _ => true) xs), 0 ≤ l := by
  rw [cvSegs_of_wrap hw]
  exact paint_labelRuns_true_ge (runsBy w xs) 0

/-- A series without any wrap yields no cycle at all. -/
theorem cv_no_wrap_none (w : α → α → Bool) (acc : List α → Bool) (xs : List α)
    (hw : (runsBy w xs).length ≤ 1) : ∀ l ∈ paint (cvSegs w acc xs), l = -1 := paint_no_wrap hw

/-- Label k covers exactly one contiguous block of samples, which is one run of the partition:
    the labelled partition is `pre ++ (run, k) :: post`, the label vector is
    `paint pre ++ replicate |run| k ++ paint post`, and k occurs neither before nor after. -/
theorem cv_label_block (w : α → α → Bool) (acc : List α → Bool) (xs : List α) (k : Nat)
    (hk : k < nCycles (cvSegs w acc xs)) :
    ∃ pre run post, cvSegs w acc xs = pre ++ (run, some k) :: post ∧ run ≠ [] ∧
      paint (cvSegs w acc xs) = paint pre ++ List.replicate run.length (k : Int) ++ paint post ∧
      (k : Int) ∉ paint pre ∧ (k : Int) ∉ paint post := by
  obtain ⟨pre, run, post, hseg, hne, hpaint, hpre, hpost⟩ := cvSegs_label_block k hk
  exact ⟨pre, run, post, hseg, hne, hpaint, hpre, fun h => by have := hpost _ h; omega⟩

/-- **Refinement**: the code-shaped model (`cvIdx`: wrap indices `where(|diff|>step)+1`, boundary
    list `0 :: inds ++ [n]`, segment loop with running counter, slice assignment `cycles[a:b] = count`)
    computes exactly the painted labelled partition. All theorems above therefore hold of the
    code-shaped model that the correspondence check runs against the implementation. -/
theorem code_model_refines (w : α → α → Bool) (acc : List α → Bool) (xs : List α) :
    cvIdx w acc xs = paint (cvSegs w acc xs) := cvIdx_eq_paint w acc xs

/-- Full cover, stated for the code-shaped model: at least one wrap position found,
    all cycles requested ⇒ every sample label is ≥ 0. -/
theorem code_model_all_cover (w : α → α → Bool) (xs : List α) (hw : wrapIdx w xs 0 ≠ []) :
    ∀ l ∈ cvIdx w (fun _ => true) xs, 0 ≤ l := by
  have := mt (wrapIdx_nil_iff w xs).mpr hw
  rw [code_model_refines]
  exact cv_all_cover w xs (by omega)

/-- No wrap position found ⇒ every label is −1 (code-shaped model). -/
theorem code_model_no_wrap (w : α → α → Bool) (acc : List α → Bool) (xs : List α)
    (hw : wrapIdx w xs 0 = []) : ∀ l ∈ cvIdx w acc xs, l = -1 := by
  intro l hl
  simp only [cvIdx, hw, ite_true] at hl
  exact (List.mem_replicate.mp hl).2

/-! ## "Never fails": the code-shaped model never tests an empty segment

Scope of the statement (see also c12.py TRUSTED / ASSUMPTIONS):
* The branch `if phase.max() > 2*pi: phase = wrap_phase(phase)` of `get_cycle_vector` is an ORACLE: the
  harness applies the real `emd.imftools.wrap_phase` before handing the phase to the model, nothing is
  proved about it (it is a `mod 2π` on floats and cannot raise on finite input).
* The mask is a Boolean vector (`List Bool`).  Integer-typed masks are outside the documented type and
  outside the model: the code computes `any(~mask[a:b])`, and `~1 = -2` is truthy, so a 0/1 integer mask
  vetoes every cycle; a multi-column mask makes `any` raise.
* `is_good` raises IndexError on an empty segment (`phase[0]`); the model's `isGoodChecks` answers `none`
  there.  The theorems below show this branch is unreachable from `get_cycle_vector`. -/

/-- The boundary list the segment loop runs over, `0 :: (where(|diff| > step) + 1) ++ [n]`, is strictly
    increasing and bounded by the record length — also when a wrap sits at the first or the last sample
    (wrap positions lie in 1..n-1, so the two guards `inds[0] >= 1`, `inds[-1] <= n-1` of the code are
    always true). -/
theorem code_model_boundaries (w : α → α → Bool) (xs : List α) (hx : xs ≠ []) :
    (0 :: wrapIdx w xs 0 ++ [xs.length]).Pairwise (· < ·) ∧
    (∀ b ∈ 0 :: wrapIdx w xs 0 ++ [xs.length], b ≤ xs.length) ∧
    ∀ i ∈ wrapIdx w xs 0, 1 ≤ i ∧ i ≤ xs.length - 1 :=
  ⟨(boundaries_spec w xs hx).1, (boundaries_spec w xs hx).2, fun i hi => by
    have hp := (boundaries_spec w xs hx).1
    rw [List.cons_append, List.pairwise_cons, List.pairwise_append] at hp
    have := hp.1 i (by simp [hi])
    have := hp.2.2.2 i hi xs.length (by simp)
    omega⟩

/-- **Every slice `phase[a:b]` handed to the acceptance test by the segment loop is non-empty** — for
    every input, every wrap predicate, whenever the loop is entered at all (at least one wrap found;
    otherwise the code returns before the loop). -/
theorem code_model_slices_nonempty (w : α → α → Bool) (xs : List α) (hw : wrapIdx w xs 0 ≠ []) :
    ∀ s ∈ segSlices xs (0 :: wrapIdx w xs 0 ++ [xs.length]), s ≠ [] := by
  have hx : xs ≠ [] := by intro h; subst h; simp [wrapIdx] at hw
  rw [segSlices_eq_runs w xs hx]
  exact runsBy_ne_nil

/-- The segment loop consults the acceptance test on those slices and nowhere else: two acceptance
    tests that agree on them give the same label vector. -/
theorem code_model_tests_only_slices (w : α → α → Bool) (acc acc' : List α → Bool) (xs : List α)
    (h : ∀ s ∈ segSlices xs (0 :: wrapIdx w xs 0 ++ [xs.length]), acc s = acc' s) :
    cvIdx w acc xs = cvIdx w acc' xs := by
  by_cases hx : xs = []
  · subst hx; rfl
  · rw [segSlices_eq_runs w xs hx] at h
    rw [code_model_refines, code_model_refines, cvSegs_congr h]

/-- Hence what the acceptance test does on an EMPTY segment (`is_good` raises IndexError there) has no
    influence on the result: the raising branch is unreachable. -/
theorem code_model_never_tests_empty (w : α → α → Bool) (acc acc' : List α → Bool) (xs : List α)
    (h : ∀ l, l ≠ [] → acc l = acc' l) : cvIdx w acc xs = cvIdx w acc' xs := by
  by_cases hw : wrapIdx w xs 0 = []
  · simp [cvIdx, hw]
  · exact code_model_tests_only_slices w acc acc' xs (fun s hs => h s (code_model_slices_nonempty w xs hw s hs))

/-- For `get_cycle_vector` itself (phase + Boolean mask, either value of `return_good`): on every slice
    the loop tests, `is_good` gets a non-empty phase segment, i.e. `isGoodChecks` is never in its
    IndexError branch (`none`). -/
theorem is_good_never_raises (g : GoodCfg) (step : Rat) (ph : List Rat) (mask : List Bool)
    (hw : wrapIdx (wrapP step) (ph.zip mask) 0 ≠ []) :
    ∀ s ∈ segSlices (ph.zip mask) (0 :: wrapIdx (wrapP step) (ph.zip mask) 0 ++ [(ph.zip mask).length]),
      (isGoodChecks g (s.map (·.1))).isSome = true := by
  intro s hs
  exact isGoodChecks_isSome (by simpa using code_model_slices_nonempty (wrapP step) (ph.zip mask) hw s hs)

/-- Full cover stated for the public entry point: all cycles requested, no mask, at least one wrap ⇒
    every sample of `getCycleVector` carries a label ≥ 0. -/
theorem getCycleVector_all_cover (g : GoodCfg) (step : Rat) (ph : List Rat)
    (hw : wrapIdx (wrapAt step) ph 0 ≠ []) :
    ∀ l ∈ getCycleVector g step false ph (List.replicate ph.length true), 0 ≤ l := by
  rw [getCycleVector_all, ← code_model_refines]
  exact code_model_all_cover _ ph hw

/-! ## `phase_step`: every value is a threshold and is used as given ("all phase_step values")

`getCycleVectorOpt g dflt step?` is `get_cycle_vector` with the `phase_step` argument as the caller wrote it
(`none` = omitted).  The theorems above are generic in the wrap predicate; the ones below instantiate them at
the public entry point for EVERY value of the argument — 0 and 0.0 (the lower end of the range: every change
of phase is a wrap), negative values (every neighbour pair is a wrap), values nothing exceeds (no wrap) — and
say that an explicit value is never replaced by the default (seeded change C12-5: `phase_step or DEFAULT`). -/

/-- An explicit `phase_step` — whatever its value, 0 included — is the threshold: the result is that of the
    detector run with exactly this number and does not depend on what the default is.  The default applies
    when (and only when) the argument is omitted. -/
theorem explicit_step_used_as_given (g : GoodCfg) (dflt dflt' s : Rat) (good : Bool) (ph : List Rat)
    (mask : List Bool) :
    getCycleVectorOpt g dflt (some s) good ph mask = getCycleVector g s good ph mask ∧
    getCycleVectorOpt g dflt (some s) good ph mask = getCycleVectorOpt g dflt' (some s) good ph mask ∧
    getCycleVectorOpt g dflt none good ph mask = getCycleVector g dflt good ph mask := ⟨rfl, rfl, rfl⟩

/-- **The partition theorems at the public entry point, for every `phase_step` argument** (omitted, 0,
    negative, huge — `step?` ranges over all of `Option Rat`) and every default: the label vector is the
    painted labelled partition for the threshold `resolveStep dflt step?`; the runs concatenate to the
    input, none is empty, none contains a pair of neighbours farther apart than the threshold, consecutive
    runs are separated by such a pair, the labels are 0..K-1 in temporal order, there is one label per
    sample, and the code-shaped model (what the driver runs) computes the same vector. -/
theorem partition_every_step (g : GoodCfg) (dflt : Rat) (step? : Option Rat) (good : Bool) (ph : List Rat)
    (mask : List Bool) :
    let step := resolveStep dflt step?
    let segs := cvSegs (wrapP step) (accept g good) (ph.zip mask)
    getCycleVectorOpt g dflt step? good ph mask = paint segs ∧
    (segs.map (·.1)).flatten = ph.zip mask ∧
    (∀ s ∈ segs, s.1 ≠ [] ∧ NoWrap (wrapP step) s.1) ∧
    WrapBetween (wrapP step) (segs.map (·.1)) ∧
    segs.filterMap (·.2) = List.range (nCycles segs) ∧
    (getCycleVectorOpt g dflt step? good ph mask).length = (ph.zip mask).length ∧
    getCycleVectorOpt g dflt step? good ph mask = cvIdx (wrapP step) (accept g good) (ph.zip mask) := by
  exact ⟨rfl, segs_partition _ _ _, fun s hs => ⟨segs_nonempty _ _ _ s hs, segs_no_internal_wrap _ _ _ s hs⟩,
    segs_boundaries_are_wraps _ _ _, labels_sequential _ _ _, cv_length _ _ _, (code_model_refines _ _ _).symm⟩

/-- `phase_step = 0` (explicit, whatever the default): a pair of neighbours is a wrap exactly when the two
    phases DIFFER.  So the runs of the partition are the maximal runs of equal phase: inside a run all
    phases are equal, and the last phase of a run differs from the first phase of the next. -/
theorem step_zero_partition (g : GoodCfg) (dflt : Rat) (good : Bool) (ph : List Rat) (mask : List Bool) :
    (∀ a b : Rat, wrapAt 0 a b = true ↔ a ≠ b) ∧
    getCycleVectorOpt g dflt (some 0) good ph mask = paint (cvSegs (wrapP 0) (accept g good) (ph.zip mask)) ∧
    (∀ s ∈ cvSegs (wrapP 0) (accept g good) (ph.zip mask), ∀ x ∈ s.1, ∀ y ∈ s.1, x.1 = y.1) ∧
    WrapBetween (fun a b : Rat × Bool => decide (a.1 ≠ b.1))
      ((cvSegs (wrapP 0) (accept g good) (ph.zip mask)).map (·.1)) := by
  have hw : wrapP 0 = fun a b : Rat × Bool => decide (a.1 ≠ b.1) := by
    funext a b
    rw [Bool.eq_iff_iff, decide_eq_true_eq]
    exact wrapAt_zero_iff a.1 b.1
  refine ⟨wrapAt_zero_iff, rfl, ?_, ?_⟩
  · intro s hs
    refine noWrap_const (wrapP 0) (·.1) (fun a b hab => ?_) s.1 (segs_no_internal_wrap _ _ _ s hs)
    simpa [hw] using hab
  · have := segs_boundaries_are_wraps (wrapP 0) (accept g good) (ph.zip mask)
    rw [hw] at this ⊢; exact this

/-- A NEGATIVE `phase_step` (|Δphase| ≥ 0 exceeds it always): every neighbour pair is a wrap, every sample
    is a cycle of its own — with all cycles requested, no mask and at least two samples the labels are
    0, 1, …, n-1. -/
theorem step_negative_every_sample_a_cycle (g : GoodCfg) (dflt s : Rat) (hs : s < 0) (ph : List Rat)
    (hn : 2 ≤ ph.length) :
    getCycleVectorOpt g dflt (some s) false ph (List.replicate ph.length true) =
      (List.range ph.length).map fun (k : Nat) => (k : Int) := by
  show getCycleVector g s false ph (List.replicate ph.length true) = _
  have hruns := runsBy_all_wrap (wrapAt s) (wrapAt_of_neg s hs) ph
  rw [getCycleVector_all, cvSegs_of_wrap (by simp [hruns]; omega), hruns, paint_labelRuns_singletons,
    List.range_eq_range']

/-- A `phase_step` that no phase difference of the series exceeds (all phases within `[lo, hi]`,
    `hi - lo ≤ phase_step`; e.g. `2π` or 7 for wrapped phases): no wrap, hence no cycle — every label is -1,
    whichever cycles are requested, with or without mask. -/
theorem step_not_exceeded_no_cycles (g : GoodCfg) (dflt s lo hi : Rat) (h : hi - lo ≤ s) (good : Bool)
    (ph : List Rat) (mask : List Bool) (hb : ∀ a ∈ ph, lo ≤ a ∧ a ≤ hi) :
    ∀ l ∈ getCycleVectorOpt g dflt (some s) good ph mask, l = -1 := by
  show ∀ l ∈ paint (cvSegs (wrapP s) (accept g good) (ph.zip mask)), l = -1
  rw [← code_model_refines]
  apply code_model_no_wrap
  apply wrapIdx_nil_of_no_wrap
  intro a ha b hb'
  exact wrapAt_false_of_bounds s lo hi h a.1 b.1 (hb _ (List.of_mem_zip ha).1) (hb _ (List.of_mem_zip hb').1)

/-! Non-vacuity: a concrete series with two wraps, three cycles, all hypotheses met
    (integer samples; the theorems are generic in the sample type). -/
def wInt (a b : Int) : Bool := decide (4 < (b - a).natAbs)
example : paint (cvSegs wInt (fun _ => true) [1, 3, 6, 0, 2, 6, 1, 4]) = [0, 0, 0, 1, 1, 1, 2, 2] := by decide
example : 2 ≤ (runsBy wInt [1, 3, 6, 0, 2, 6, 1, 4]).length := by decide
example : cvIdx wInt (fun _ => true) [1, 3, 6, 0, 2, 6, 1, 4] = [0, 0, 0, 1, 1, 1, 2, 2] := by decide
example : (2 : Nat) < nCycles (cvSegs wInt (fun _ => true) [1, 3, 6, 0, 2, 6, 1, 4]) := by decide
-- wraps at the first and at the last sample: boundaries [0, 1, 4, 5], slices of lengths 1, 3, 1
example : wrapIdx wInt [9, 1, 2, 3, 9] 0 = [1, 4] := by decide
example : segSlices [9, 1, 2, 3, 9] (0 :: wrapIdx wInt [9, 1, 2, 3, 9] 0 ++ [5]) = [[9], [1, 2, 3], [9]] := by decide
example := code_model_slices_nonempty wInt [9, 1, 2, 3, 9] (by decide)

-- phase_step = 0 on the witness of seeded change C12-5 (repeated values, small changes): cycles at every change of phase,
-- although the default threshold 3/2·π ≈ 4.71 sees a single wrap; a negative step labels every sample
example : getCycleVectorOpt { edge := 1/4, twopi := 6, endlo := 23/4 } (471/100) (some 0) false
    [1/2, 1/2, 1, 1, 1, 5/2, 5/2, 6, 1/5, 1/5] (List.replicate 10 true) = [0, 0, 1, 1, 1, 2, 2, 3, 4, 4] := by decide +kernel
example : getCycleVectorOpt { edge := 1/4, twopi := 6, endlo := 23/4 } (471/100) none false
    [1/2, 1/2, 1, 1, 1, 5/2, 5/2, 6, 1/5, 1/5] (List.replicate 10 true) = [0, 0, 0, 0, 0, 0, 0, 0, 1, 1] := by decide +kernel
example : getCycleVectorOpt { edge := 1/4, twopi := 6, endlo := 23/4 } (471/100) (some (-1)) false
    [1/2, 1/2, 1] (List.replicate 3 true) = [0, 1, 2] := by decide +kernel

end C12
